import Girc.Model.Lifecycle
/-
  C07: what needs no reachability. The inversion of one step into its enabled branches (`step_cases`, used by
  every per-action proof of the invariant as well). A single step never un-cancels the group nor writes another
  action's cause flag (`step_frame`); once the group is cancelled every library step strictly decreases `measure`
  (`lib_decreases`) and one is enabled until Connect has returned (`lib_enabled`: no deadlock).
-/
namespace Girc.Proofs.Life
open Girc Girc.Model.Life

/-- Inverts `step s a = some s'`: one goal per enabled branch of `step`, the guards as hypotheses and
    `s'` replaced by the explicit update of `s`. -/
macro "step_cases " h:ident : tactic =>
  `(tactic| (simp only [step] at $h:ident; (repeat' split at $h:ident) <;> cases $h:ident))

theorem step_frame {s s' : LState} {a : Act} (hs : step s a = some s') :
    (s'.pingOff = s.pingOff ∧ s'.cap = s.cap) ∧ (s.groupCancelled = true → s'.groupCancelled = true) ∧
    (a ≠ .readParseErr → s'.parseErrSeen = s.parseErrSeen) ∧
    (a ≠ .pingTimeout → s'.pingTimedOut = s.pingTimedOut) ∧
    (a ≠ .sendFail → s'.writeFailed = s.writeFailed) := by
  cases a <;> step_cases hs <;>
    exact ⟨⟨rfl, rfl⟩, by first | exact id | exact fun _ => rfl,
      by first | exact fun _ => rfl | exact fun h => absurd rfl h,
      by first | exact fun _ => rfl | exact fun h => absurd rfl h,
      by first | exact fun _ => rfl | exact fun h => absurd rfl h⟩

theorem cancelled_stays (s s' : LState) (a : Act) (hs : step s a = some s') (hc : s.groupCancelled = true) :
    s'.groupCancelled = true :=
  (step_frame hs).2.1 hc

@[simp] theorem mainRank_teardown (r : Option Err) : mainRank (.teardown r) = 4 := by
  cases r <;> rfl

@[simp] theorem mainRank_waiting : mainRank .waiting = 6 := rfl
@[simp] theorem mainRank_closedEv : mainRank .closedEv = 5 := rfl
@[simp] theorem mainRank_discEv (r : Option Err) : mainRank (.discEv r) = 3 := rfl
@[simp] theorem mainRank_finish (r : Option Err) : mainRank (.finish r) = 2 := rfl
@[simp] theorem mainRank_returned (r : Option Err) : mainRank (.returned r) = 0 := rfl

theorem lib_decreases (s s' : LState) (a : Act) (hc : s.groupCancelled = true) (ha : a.isLib = true)
    (hs : step s a = some s') : measure s' < measure s := by
  cases a
  case userClose | userQuit | userSend | peerSend | peerClose => cases ha
  all_goals
    step_cases hs
    all_goals
      simp_all [Girc.Model.Life.measure, loopRank, LState.fail]
      try (repeat' split) <;> omega

theorem lib_enabled (s : LState) (hc : s.groupCancelled = true) (hm : ∀ r, s.main ≠ .returned r) :
    ∃ a, a.isLib = true ∧ (step s a).isSome = true := by
  cases hmain : s.main with
  | waiting =>
    cases hread : s.read with
    | running => exact ⟨.readCancel, rfl, by simp [step, hread, hc]⟩
    | exited r1 =>
    cases hexec : s.exec with
    | running =>
      refine ⟨.execFlush, rfl, ?_⟩
      simp only [step, hexec, hc, if_true]
      split <;> simp
    | exited r2 =>
    cases hsend : s.send with
    | running => exact ⟨.sendCancel, rfl, by simp [step, hsend, hc]⟩
    | exited r3 =>
    cases hping : s.ping with
    | running =>
      -- pings enabled: the `<-ctx.Done()` arm; pings disabled: the early `return nil`
      cases hoff : s.pingOff with
      | false => exact ⟨.pingCancel, rfl, by simp [step, hping, hc, hoff]⟩
      | true => exact ⟨.pingDisabled, rfl, by simp [step, hping, hoff]⟩
    | exited r4 =>
      exact ⟨.mainWait, rfl, by simp [step, hmain, hread, hexec, hsend, hping, Loop.done]⟩
  | closedEv => exact ⟨.mainClosedEv, rfl, by simp [step, hmain]⟩
  | teardown r => exact ⟨.mainTeardown, rfl, by simp [step, hmain]⟩
  | discEv r => exact ⟨.mainDisc, rfl, by simp [step, hmain]⟩
  | finish r => exact ⟨.mainFinish, rfl, by simp [step, hmain]⟩
  | returned r => exact absurd hmain (hm r)

theorem run_cancelled (s s' : LState) (acts : List Act) (hc : s.groupCancelled = true)
    (hr : run s acts = some s') : s'.groupCancelled = true := by
  induction acts generalizing s with
  | nil => cases hr; exact hc
  | cons a rest ih =>
    simp only [run] at hr
    split at hr
    · rename_i s1 hs1
      exact ih s1 (cancelled_stays s s1 a hs1 hc) hr
    · cases hr

end Girc.Proofs.Life
