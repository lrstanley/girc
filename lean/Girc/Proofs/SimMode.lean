import Girc.Proofs.InvHandlers
import Girc.Proofs.InvJoin
import Girc.Proofs.SimBase
/-
  C04: MODE / RPL_CHANNELMODEIS. The implementation parses the whole flag string against the
  channel's CHANMODES classes, applies the settings, then walks the parsed list again for privilege
  changes; the reference folds one flag at a time. Both decide what a letter means by the same chain of
  tests, named here once (`cls`); one flag is compared class by class (`modeFlag_eq`), the message by a
  lock-step induction over the flag string. `st`/`r` are the states AFTER the account-tag step.
-/
namespace Girc.Proofs.SimMode
open Girc Girc.Model Girc.Spec
open Girc.Proofs.InvBase Girc.Proofs.InvHandlers Girc.Proofs.SimAMap Girc.Proofs.SimJoin

/-- CHANMODES classes A, B, C, the PREFIX letters, and everything else (class D, or any letter when the
    server announced no classes). -/
inductive Cls | list | arg | setArg | priv | plain

/-- The chain of tests of `CModes.hasArg` and `Ref.modeFlag`: no classes announced, A, B, C, PREFIX. -/
def cls (e a b c p : Bool) : Cls :=
  if e then .plain else if a then .list else if b then .arg else if c then .setArg else if p then .priv else .plain

/-- The class of `f` in a channel of the reference model. -/
def rcls (ch : RChan) (f : Byte) : Cls :=
  cls ch.chanmodes.isEmpty ((splitN4 ch.chanmodes).1.contains f) ((splitN4 ch.chanmodes).2.1.contains f)
    ((splitN4 ch.chanmodes).2.2.1.contains f) (ch.prefixModes.contains f)

def rset (f : Byte) (ms : List (Byte × Bytes)) (a : Bytes) : List (Byte × Bytes) :=
  if ms.any (·.1 = f) then ms.map (fun m => if m.1 = f then (f, a) else m) else ms ++ [(f, a)]

def runset (f : Byte) (ms : List (Byte × Bytes)) : List (Byte × Bytes) := ms.filter (·.1 != f)

def takeArg (args : List Bytes) : Bytes × List Bytes := match args with | a :: rest => (a, rest) | [] => ([], [])

theorem modeFlag_cls (ch : RChan) (add : Bool) (f : Byte) (args : List Bytes) :
    Ref.modeFlag ch add f args =
      match rcls ch f with
      | .list => (ch.modes, (takeArg args).2, none)
      | .arg => ((if add then rset f ch.modes (takeArg args).1 else runset f ch.modes), (takeArg args).2, none)
      | .setArg =>
        if add then (rset f ch.modes (takeArg args).1, (takeArg args).2, none) else (runset f ch.modes, args, none)
      | .priv => (ch.modes, (takeArg args).2, some (f, (takeArg args).1, add))
      | .plain => ((if add then rset f ch.modes [] else runset f ch.modes), args, none) := by
  unfold Ref.modeFlag rcls
  dsimp only
  cases ch.chanmodes.isEmpty
  · cases (splitN4 ch.chanmodes).1.contains f
    · cases (splitN4 ch.chanmodes).2.1.contains f
      · cases (splitN4 ch.chanmodes).2.2.1.contains f
        · cases ch.prefixModes.contains f <;> rfl
        · rfl
      · rfl
    · rfl
  · rfl

theorem hasArg_cls (c : CModes) (add : Bool) (f : Byte) :
    c.hasArg add f =
      match cls c.raw.isEmpty (c.listArgs.contains f) (c.argsM.contains f) (c.setArgs.contains f)
          (c.prefixes.contains f) with
      | .list => (true, false)
      | .arg => (true, true)
      | .setArg => if add then (true, true) else (false, true)
      | .priv => (true, false)
      | .plain => (false, true) := by
  unfold CModes.hasArg
  cases hr : c.raw with
  | nil => rfl
  | cons x xs =>
    rw [if_neg (by simp only [List.length_cons]; omega)]
    show _ = match cls false _ _ _ _ with | .list => _ | .arg => _ | .setArg => _ | .priv => _ | .plain => _
    cases c.listArgs.contains f
    · cases c.argsM.contains f
      · cases c.setArgs.contains f
        · cases c.prefixes.contains f <;> rfl
        · rfl
      · rfl
    · rfl

/-- One step of `CModes.parseAux` on an ordinary flag: the parsed change and the remaining arguments. -/
def pstep (c : CModes) (add : Bool) (f : Byte) (args : List Bytes) : CMode × List Bytes :=
  match (c.hasArg add f).1, args with
  | true, a :: args' => (⟨add, f, (c.hasArg add f).2, a⟩, args')
  | _, _ => (⟨add, f, (c.hasArg add f).2, []⟩, args)

theorem pstep_name (c : CModes) (add : Bool) (f : Byte) (args : List Bytes) : (pstep c add f args).1.name = f := by
  unfold pstep; split <;> rfl

theorem pstep_add (c : CModes) (add : Bool) (f : Byte) (args : List Bytes) : (pstep c add f args).1.add = add := by
  unfold pstep; split <;> rfl

theorem parseAux_nil (c : CModes) (add : Bool) (args : List Bytes) : c.parseAux [] add args = [] := by
  rw [CModes.parseAux]

theorem parseAux_plus (c : CModes) (rest : Bytes) (add : Bool) (args : List Bytes) :
    c.parseAux (0x2B :: rest) add args = c.parseAux rest true args := by
  rw [CModes.parseAux, if_pos rfl]

theorem parseAux_minus (c : CModes) (rest : Bytes) (add : Bool) (args : List Bytes) :
    c.parseAux (0x2D :: rest) add args = c.parseAux rest false args := by
  rw [CModes.parseAux, if_neg (by decide), if_pos rfl]

theorem parseAux_flag (c : CModes) (f : Byte) (rest : Bytes) (add : Bool) (args : List Bytes)
    (h1 : f ≠ 0x2B) (h2 : f ≠ 0x2D) :
    c.parseAux (f :: rest) add args = (pstep c add f args).1 :: c.parseAux rest add (pstep c add f args).2 := by
  rw [CModes.parseAux, if_neg h1, if_neg h2]
  unfold pstep
  rcases hh : c.hasArg add f with ⟨ha, hs⟩
  cases ha <;> cases args <;> rfl

theorem hasArg_modes (c : CModes) (ms : List CMode) (add : Bool) (f : Byte) :
    CModes.hasArg { c with modes := ms } add f = c.hasArg add f := rfl

theorem parseAux_modes (c : CModes) (ms : List CMode) :
    ∀ (flags : Bytes) (add : Bool) (args : List Bytes),
      CModes.parseAux { c with modes := ms } flags add args = c.parseAux flags add args := by
  intro flags
  induction flags with
  | nil => intro add args; rw [parseAux_nil, parseAux_nil]
  | cons f rest ih =>
    intro add args
    by_cases h1 : f = 0x2B
    · subst h1; rw [parseAux_plus, parseAux_plus, ih]
    · by_cases h2 : f = 0x2D
      · subst h2; rw [parseAux_minus, parseAux_minus, ih]
      · rw [parseAux_flag _ _ _ _ _ h1 h2, parseAux_flag _ _ _ _ _ h1 h2, ih]
        rfl

abbrev mview : CMode → Byte × Bytes := fun m => (m.name, m.args)

theorem applyOne_set_view (ms : List CMode) (f : Byte) (a : Bytes) :
    (applyOne ms ⟨true, f, true, a⟩).map mview = rset f (ms.map mview) a := by
  unfold applyOne rset
  simp only [Bool.not_true, Bool.false_eq_true, if_false, if_true, List.any_map]
  have hany : (ms.any fun x => decide (x.name = f)) = ms.any ((fun x : Byte × Bytes => decide (x.1 = f)) ∘ mview) := rfl
  rw [← hany]
  split
  · rw [List.map_map, List.map_map]
    apply List.map_congr_left
    intro x _
    simp only [Function.comp]
    split <;> rfl
  · rw [List.map_append]; rfl

theorem applyOne_unset_view (ms : List CMode) (f : Byte) (a : Bytes) :
    (applyOne ms ⟨false, f, true, a⟩).map mview = runset f (ms.map mview) := by
  unfold applyOne runset
  simp only [Bool.not_true, Bool.false_eq_true, if_false]
  rw [List.filter_map]
  rfl

theorem applyOne_wf (ms : List CMode) (m : CMode) (h : ∀ x ∈ ms, x.add = true ∧ x.setting = true) :
    ∀ x ∈ applyOne ms m, x.add = true ∧ x.setting = true := by
  obtain ⟨a, n, s, ar⟩ := m
  cases s
  · exact h
  · cases a
    · intro x hx
      exact h x (List.mem_filter.mp hx).1
    · intro x hx
      have hx' : x ∈ (if ms.any (·.name = n) then ms.map (fun y => if y.name = n then ⟨true, n, true, ar⟩ else y)
          else ms ++ [⟨true, n, true, ar⟩]) := hx
      split at hx'
      · obtain ⟨y, hy, rfl⟩ := List.mem_map.mp hx'
        split
        · exact ⟨rfl, rfl⟩
        · exact h y hy
      · rcases List.mem_append.mp hx' with hx' | hx'
        · exact h x hx'
        · rw [List.mem_singleton.mp hx']; exact ⟨rfl, rfl⟩

theorem modeFlag_eq (ch : Channel) (hwf : modesWF ch.modes) (add : Bool) (f : Byte) (args : List Bytes) :
    Ref.modeFlag (chanView ch) add f args =
      ((applyOne ch.modes.modes (pstep ch.modes add f args).1).map mview, (pstep ch.modes add f args).2,
        if (pstep ch.modes add f args).1.setting || ch.modes.listArgs.contains f then none
        else some (f, (pstep ch.modes add f args).1.args, add)) := by
  have hcl : rcls (chanView ch) f = cls ch.modes.raw.isEmpty (ch.modes.listArgs.contains f)
      (ch.modes.argsM.contains f) (ch.modes.setArgs.contains f) (ch.modes.prefixes.contains f) := by
    show cls ch.modes.raw.isEmpty ((splitN4 ch.modes.raw).1.contains f) ((splitN4 ch.modes.raw).2.1.contains f)
      ((splitN4 ch.modes.raw).2.2.1.contains f) (ch.modes.prefixes.contains f) = _
    rw [← hwf.2]
  rw [modeFlag_cls, hcl, show (chanView ch).modes = ch.modes.modes.map mview from rfl]
  unfold pstep
  rw [hasArg_cls]
  generalize ch.modes.modes = ms
  cases ch.modes.raw.isEmpty
  · cases hA : ch.modes.listArgs.contains f
    · cases ch.modes.argsM.contains f
      · cases ch.modes.setArgs.contains f
        · cases ch.modes.prefixes.contains f
          · cases add
            · exact congrArg (·, args, none) (applyOne_unset_view ms f []).symm
            · exact congrArg (·, args, none) (applyOne_set_view ms f []).symm
          · cases args <;> rfl
        · cases add <;> cases args
          · exact congrArg (·, [], none) (applyOne_unset_view ms f []).symm
          · exact congrArg (·, _, none) (applyOne_unset_view ms f []).symm
          · exact congrArg (·, [], none) (applyOne_set_view ms f []).symm
          · exact congrArg (·, _, none) (applyOne_set_view ms f _).symm
      · cases add <;> cases args
        · exact congrArg (·, [], none) (applyOne_unset_view ms f []).symm
        · exact congrArg (·, _, none) (applyOne_unset_view ms f _).symm
        · exact congrArg (·, [], none) (applyOne_set_view ms f []).symm
        · exact congrArg (·, _, none) (applyOne_set_view ms f _).symm
    · cases args <;> rfl
  · cases add
    · exact congrArg (·, args, none) (applyOne_unset_view ms f []).symm
    · exact congrArg (·, args, none) (applyOne_set_view ms f []).symm

theorem lookupUser_setChannel (st : St) (k : Bytes) (c : Channel) (x : Bytes) :
    (setChannel st k c).lookupUser x = st.lookupUser x := rfl

theorem modePerms_setChannel (name la : Bytes) (st : St) (m : CMode) (k : Bytes) (c : Channel) :
    modePerms name la (setChannel st k c) m = setChannel (modePerms name la st m) k c := by
  unfold modePerms
  rw [lookupUser_setChannel]
  cases (m.setting || m.args.isEmpty)
  · cases la.contains m.name
    · cases st.lookupUser m.args <;> rfl
    · rfl
  · rfl

theorem modePerms_skip (name la : Bytes) (st : St) (m : CMode)
    (h : (m.setting || la.contains m.name) = true) : modePerms name la st m = st := by
  unfold modePerms
  cases hs : m.setting
  · rw [hs, Bool.false_or] at h
    rw [h]
    cases m.args.isEmpty <;> rfl
  · rfl

theorem simW_modePerms {st : St} {r : Ref} (h : SimW st r) (name la : Bytes) (m : CMode)
    (hs : m.setting = false) (hl : la.contains m.name = false) :
    SimW (modePerms name la st m) (r.applyPriv (fold name) (m.name, m.args, m.add)) := by
  unfold modePerms Ref.applyPriv
  dsimp only
  rw [hs, hl, Bool.false_or, if_neg Bool.false_ne_true, lookupUser_eq]
  cases he : m.args.isEmpty
  · cases hu : AMap.get? st.users (fold m.args) with
    | none =>
      rw [(contains_eq_false_iff _ _).mpr (view_none h.users hu)]
      exact h
    | some user =>
      rw [contains_of_view h.users hu]
      exact simW_setPerms h _ _ _ hu fun hm => by rw [h.perms _ _ _ hm hu]; rfl
  · exact h

/-- The channel as `handleMODE` stores it after `Apply`. -/
def applied (ch : Channel) (changes : List CMode) : Channel := { ch with modes := ch.modes.apply changes }

theorem applied_cons (ch : Channel) (m : CMode) (cs : List CMode) :
    applied ch (m :: cs) =
      applied { ch with modes := { ch.modes with modes := applyOne ch.modes.modes m } } cs := rfl

/-- The hypothesis is about `setChannel st k ch`: `st` itself need not hold the channel that is stored. -/
theorem sim_flag {st : St} {r : Ref} {k : Bytes} {ch : Channel} (h : SimW (setChannel st k ch) r)
    (hk : k = fold ch.name) (m : CMode) :
    let ch1 : Channel := { ch with modes := { ch.modes with modes := applyOne ch.modes.modes m } }
    let r1 : Ref := { r with chans := AMap.set r.chans k (chanView ch1) }
    SimW (modePerms ch.name ch.modes.listArgs (setChannel st k ch1) m)
      (match (if m.setting || ch.modes.listArgs.contains m.name then none else some (m.name, m.args, m.add)) with
        | some pr => r1.applyPriv k pr
        | none => r1) := by
  intro ch1 r1
  have hc : AMap.get? (setChannel st k ch).channels k = some ch := get?_set_self _ _ _
  have hwf := h.chanModesWF k ch hc
  have h1 : SimW (setChannel st k ch1) r1 :=
    (simW_setChannel (ch' := ch1) h hc rfl ⟨applyOne_wf _ m hwf.1, hwf.2⟩).congr
      (StEq.of_channels st (InvBase.get?_set_set _ _ _ _))
  by_cases hskip : (m.setting || ch.modes.listArgs.contains m.name) = true
  · rw [if_pos hskip, modePerms_skip _ _ _ _ hskip]
    exact h1
  · rw [if_neg hskip]
    rw [Bool.or_eq_true, not_or, Bool.not_eq_true, Bool.not_eq_true] at hskip
    exact hk ▸ simW_modePerms h1 ch.name ch.modes.listArgs m hskip.1 hskip.2

theorem sim_modeLoop (k : Bytes) : ∀ (flags : Bytes) (add : Bool) (args : List Bytes) (st : St) (r : Ref)
    (ch : Channel), SimW (setChannel st k ch) r → k = fold ch.name →
    SimW ((ch.modes.parseAux flags add args).foldl (modePerms ch.name ch.modes.listArgs)
          (setChannel st k (applied ch (ch.modes.parseAux flags add args))))
      (Ref.modeString flags add args r k) := by
  intro flags
  induction flags with
  | nil =>
    intro add args st r ch h _
    rw [parseAux_nil, Ref.modeString]
    exact h
  | cons f rest ih =>
    intro add args st r ch h hk
    by_cases h1 : f = 0x2B
    · subst h1
      rw [parseAux_plus, Ref.modeString, if_pos rfl]
      exact ih true args st r ch h hk
    by_cases h2 : f = 0x2D
    · subst h2
      rw [parseAux_minus, Ref.modeString, if_neg (by decide), if_pos rfl]
      exact ih false args st r ch h hk
    have hc : AMap.get? (setChannel st k ch).channels k = some ch := get?_set_self _ _ _
    rw [parseAux_flag _ _ _ _ _ h1 h2, Ref.modeString, if_neg h1, if_neg h2, known_of_get? h.chans hc]
    dsimp only
    rw [modeFlag_eq ch (h.chanModesWF k ch hc), List.foldl_cons, applied_cons, modePerms_setChannel]
    have hstep := sim_flag h hk (pstep ch.modes add f args).1
    dsimp only at hstep
    rw [pstep_name, pstep_add, modePerms_setChannel] at hstep
    have hih := ih add (pstep ch.modes add f args).2 _ _ _ hstep hk
    rw [parseAux_modes] at hih
    exact hih

theorem cmdStep_mode (cfg : Cfg) (r : Ref) (e : Event) (hcmd : e.command = cMODE ∨ e.command = c324) :
    r.cmdStep cfg e =
      match (if e.command = c324 && e.params.length > 2 then e.params.drop 1 else e.params) with
      | target :: flags :: args =>
        if isValidChannel target && AMap.contains r.chans (fold target)
          then Ref.modeString flags true args r (fold target) else r
      | _ => r := by
  obtain ⟨t, s, c, p⟩ := e
  rcases hcmd with h | h
  · subst h; rfl
  · subst h; rfl

theorem sim_MODE {st : St} {r : Ref} (cfg : Cfg) (e : Event) (hi : Inv st) (h : SimW st r)
    (hcmd : e.command = cMODE ∨ e.command = c324) :
    ∃ st', handleMODE st e = .ok st' ∧ SimW st' (r.cmdStep cfg e) := by
  rw [cmdStep_mode cfg r e hcmd]
  unfold handleMODE
  extract_lets ps
  show ∃ st', _ = Except.ok st' ∧ SimW st' (match ps with
      | target :: flags :: args =>
        if isValidChannel target && AMap.contains r.chans (fold target)
          then Ref.modeString flags true args r (fold target) else r
      | _ => r)
  clear_value ps
  match ps with
  | [] => exact ⟨st, rfl, h⟩
  | [_] => exact ⟨st, rfl, h⟩
  | target :: flags :: args =>
    rw [if_neg (by simp only [List.length_cons]; omega), idx_ok _ 0 (by simp), ok_bind]
    dsimp only [List.getElem_cons_zero]
    by_cases hv : isValidChannel target = true
    · simp only [hv, Bool.not_true, Bool.false_eq_true, if_false, Bool.true_and]
      rw [lookupChannel_eq]
      cases hc : AMap.get? st.channels (fold target) with
      | none =>
        rw [(contains_eq_false_iff _ _).mpr (view_none h.chans hc)]
        exact ⟨st, rfl, h⟩
      | some ch =>
        rw [contains_of_view h.chans hc]
        dsimp only
        rw [idx_ok _ 1 (by simp), ok_bind]
        exact ⟨_, rfl, sim_modeLoop (fold target) flags true args st r ch (h.congr (stEq_setChannel_self hc))
          (hi.toInvL.chanKey _ ch hc)⟩
    · rw [Bool.not_eq_true] at hv
      simp only [hv, Bool.not_false, if_true, Bool.false_and, Bool.false_eq_true, if_false]
      exact ⟨st, rfl, h⟩

end Girc.Proofs.SimMode
