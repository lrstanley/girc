import Girc.Proofs.TransBase
import Girc.Proofs.AMapLemmas
import Girc.Model.Cap
/-
  Translator equivalence, cap.go `parseCap`: a `map[string]map[string]string` built by nested map assignments
  (`out[a][b] = v`), a `range` over `strings.Split(…)`.
-/
namespace Girc.Proofs.Trans
open Girc Girc.Model Girc.Go Girc.Gen

theorem parseCap_loop2_eq (parts : List Bytes) (val i : Int) (part key : Bytes) (hp : atL parts i = .ok part)
    (hk : sliceI part 0 val = .ok key) (m : AMap CapVal) (opts : List Bytes) (inner : AMap Bytes) :
    Fn.parseCap_loop2 parts val i (opts.length + 1) opts (some (AMap.set m key (some inner))) =
      .ok (.done (some (AMap.set m key (some (opts.foldl parseCapOption inner))))) := by
  refine (forRangeVia (Fn.parseCap_loop2 parts val i) (fun inner => some (AMap.set m key (some inner))) parseCapOption
    (fun _ _ => rfl) (fun fuel opt rest inner => ?_) _ opts inner (Nat.lt_succ_self _))
  · have hget : mapGet2 (some (AMap.set m key (some inner))) key = some inner := by
      rw [mapGet2, InvBase.get?_set_self]; rfl
    simp only [gosem, Fn.parseCap_loop2, indexI_single, hp, hk, hget, parseCapOption, mapSet, mapSet2,
      InvBase.set_set]
    cases hi : indexOf 0x3D opt with
    | none => simp only [gosem, indexByteI_none hi, show decide ((-1 : Int) < 0) = true from rfl]
    | some n =>
      simp only [gosem, indexByteI_some hi, show decide ((n : Int) < 0) = false from decide_eq_false (by omega),
        sliceI_before hi, sliceI_after hi]

/-- The loop over the capabilities; its second state component is the `=` position in the capability seen last. -/
theorem parseCap_loop1_eq (parts : List Bytes) (n : Nat) (m : AMap CapVal) (val : Int) (hn : n ≤ parts.length) :
    Fn.parseCap_loop1 parts (fuelTo n (len parts)) (some m) val (n : Int) =
      .ok (.done (some ((parts.drop n).foldl parseCapItem m),
        (parts.drop n).foldl (fun _ p => indexByteI p 0x3D) val)) := by
  refine forIdx_len parts (fun fuel (s : AMap CapVal × Int) i => Fn.parseCap_loop1 parts fuel (some s.1) s.2 i)
    (fun n s => .done (some ((parts.drop n).foldl parseCapItem s.1),
      (parts.drop n).foldl (fun _ p => indexByteI p 0x3D) s.2))
    (fun fuel s => ?_) (fun fuel n s x hlt hx ih => ?_) n (m, val) hn
  · simp only [gosem, Fn.parseCap_loop1, List.drop_length, List.foldl_nil]
  · have ih := fun m v => ih (m, v)
    rw [drop_cons_of_getElem? hx, List.foldl_cons, List.foldl_cons]
    simp only [gosem, Fn.parseCap_loop1, decide_lt_len hlt, atL_ofNat hx, show Fn.prefixTagValue = 0x3D from rfl,
      parseCapItem, mapSet2]
    cases hi : indexOf 0x3D x with
    | none => simp only [gosem, indexByteI_none hi, show decide ((-1 : Int) < 1) = true from rfl, Bool.true_or, ih]
    | some k =>
      cases k with
      | zero => simp only [gosem, indexByteI_some hi, show decide (((0 : Nat) : Int) < 1) = true from rfl,
        Bool.true_or, ih]
      | succ v =>
        have hk := BytesLemmas.indexOf_lt hi
        have s1 := sliceI_before hi
        have s2 := sliceI_after hi
        have h2 := parseCap_loop2_eq parts ((v + 1 : Nat) : Int) (n : Int) x (x.take (v + 1)) (atL_ofNat hx) s1 s.1
          (splitOnByte 0x2C (x.drop (v + 2))) []
        simp only [gosem, indexByteI_some hi,
          show decide (((v + 1 : Nat) : Int) < 1) = false from decide_eq_false (by omega),
          show decide (len x < ((v + 1 : Nat) : Int) + 1) = false from decide_eq_false (by rw [len]; omega),
          Bool.or_self, s1, s2, split_one, h2, ih]

end Girc.Proofs.Trans
