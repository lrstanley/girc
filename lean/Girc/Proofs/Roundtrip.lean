import Girc.Proofs.ParseRender
import Girc.Proofs.Serialize
import Girc.Proofs.Utf8
/-
  C01. The buffer of a well-formed event is valid UTF-8 and CR/LF-free, so `Event.Bytes` writes it as it is,
  and each of its sections is of the shape `ParseSections.parseEvent_sections` reads back (`roundtrip_core`).
  For a grammatical line the same is got from `validUTF8 (render l)`: every field is delimited by ASCII
  separators, so the validity of the line is the validity of its fields.
-/
namespace Girc.Proofs.RoundtripLemmas
open Girc Girc.Model Girc.Spec
open Girc.Proofs.ParseLemmas Girc.Proofs.ParseParams Girc.Proofs.ParseSections Girc.Proofs.ParseTags
open Girc.Proofs.ParseRender

theorem fieldOK_clean (s : Bytes) (h : fieldOK s = true) : Clean s := by
  simp only [fieldOK, Bool.and_eq_true] at h
  exact ⟨h.1, NoCRLF.of_all h.2 (by decide) (by decide)⟩

/-- The byte test of `wfCmd`: printable ASCII without the lower-case letters. -/
abbrev cmdByte (b : Byte) : Bool := 0x21 ≤ b && b ≤ 0x7E && !(0x61 ≤ b && b ≤ 0x7A)

theorem cmdByte_facts : ∀ b : UInt8, cmdByte b = true → b < 0x80 ∧ upper1 b = b := by
  decide +kernel

theorem wfCmd_ok (c : Bytes) (h : wfCmd c = true) :
    CmdOK c ∧ Clean c ∧ toUpperAscii c = c := by
  simp only [wfCmd, Bool.and_eq_true, Bool.not_eq_true', bne_iff_ne, ne_eq] at h
  obtain ⟨⟨⟨hne, hall⟩, hcol⟩, hat⟩ := h
  have hb := fun b hm => cmdByte_facts b (List.all_eq_true.mp hall b hm)
  have hcrlf : NoCRLF c := .of_all hall (by decide) (by decide)
  refine ⟨⟨fun e => by subst e; simp at hne, not_mem_of_all hall (by decide), hat, hcol, hcrlf⟩,
    .of_ascii (List.all_eq_true.mpr fun b hm => decide_eq_true (hb b hm).1) hcrlf, ?_⟩
  exact (List.map_congr_left fun b hm => (hb b hm).2).trans (List.map_id c)

theorem wfSrcPart_ok (s : Bytes) (h : wfSrcPart s = true) :
    Clean s ∧ SP ∉ s ∧ BANG ∉ s ∧ AT ∉ s := by
  simp only [wfSrcPart, Bool.and_eq_true] at h
  exact ⟨fieldOK_clean s h.1, not_mem_of_all h.2 (by decide), not_mem_of_all h.2 (by decide),
    not_mem_of_all h.2 (by decide)⟩

/-- The parse tree of a serialised source. -/
def prefixOf (s : Source) : Prefix :=
  ⟨s.name, if s.ident.length > 0 then some s.ident else none,
    if s.host.length > 0 then some s.host else none⟩

theorem sourceBytes_eq (s : Source) : sourceBytes s = renderPrefix (prefixOf s) := by
  unfold sourceBytes renderPrefix prefixOf
  by_cases hi : s.ident.length > 0 <;> by_cases hh : s.host.length > 0 <;> simp [hi, hh]

theorem meaningSource_prefixOf (s : Source) : meaningSource (prefixOf s) = s := by
  obtain ⟨name, ident, host⟩ := s
  unfold meaningSource prefixOf
  have h1 : ∀ x : Bytes, (if x.length > 0 then some x else none).getD [] = x := by
    intro x
    cases x <;> simp
  simp [h1]

theorem sourceBytes_ok (s : Source) (hne : s.name ≠ []) (hn : SP ∉ s.name ∧ BANG ∉ s.name ∧ AT ∉ s.name)
    (hi : SP ∉ s.ident ∧ BANG ∉ s.ident ∧ AT ∉ s.ident) (hh : SP ∉ s.host ∧ BANG ∉ s.host) :
    sourceBytes s ≠ [] ∧ SP ∉ sourceBytes s ∧ parseSource (sourceBytes s) = s := by
  refine ⟨by simp [sourceBytes, hne], ?_, ?_⟩
  · exact Serialize.sourceBytes_pred (P := (SP ∉ ·)) List.not_mem_nil not_mem_append (by decide) (by decide) s
      ⟨hn.1, hi.1, hh.1⟩
  · rw [sourceBytes_eq, parseSource_renderPrefix (prefixOf s) hne hn.2.1 hn.2.2, meaningSource_prefixOf]
    · intro i hi'
      simp only [prefixOf] at hi'
      split at hi'
      · cases hi'; exact hi.2
      · cases hi'
    · intro i hi'
      simp only [prefixOf] at hi'
      split at hi'
      · cases hi'; exact hh.2
      · cases hi'

theorem wfSource_ok (s : Source) (h : wfSource s = true) :
    sourceBytes s ≠ [] ∧ SP ∉ sourceBytes s ∧ parseSource (sourceBytes s) = s := by
  simp only [wfSource, Bool.and_eq_true, Bool.not_eq_true'] at h
  obtain ⟨⟨⟨hne, hn⟩, hi⟩, hh⟩ := h
  exact sourceBytes_ok s (fun e => by rw [e] at hne; cases hne) (wfSrcPart_ok _ hn).2 (wfSrcPart_ok _ hi).2
    ⟨(wfSrcPart_ok _ hh).2.1, (wfSrcPart_ok _ hh).2.2.1⟩

theorem wfMid_ok (p : Bytes) (h : wfMid p = true) : WkMid p ∧ Clean p := by
  simp only [wfMid, Bool.and_eq_true, Bool.not_eq_true', bne_iff_ne, ne_eq] at h
  obtain ⟨⟨⟨hf, hne⟩, hsp⟩, hc⟩ := h
  refine ⟨⟨?_, ?_, hc⟩, fieldOK_clean p hf⟩
  · intro e; subst e; simp at hne
  · intro hm; simp [hm] at hsp

theorem not_needsColon_wkMid (p : Bytes) (h : needsColon p = false) : WkMid p := by
  simp only [needsColon, Bool.or_eq_false_iff, decide_eq_false_iff_not] at h
  obtain ⟨⟨hsp, hne⟩, hc⟩ := h
  refine ⟨?_, ?_, hc⟩
  · intro e; subst e; simp at hne
  · intro hm; simp [hm] at hsp

theorem parseParams_paramsBytes : ∀ (ps : List Bytes), (∀ p ∈ ps.dropLast, WkMid p) → parseParams (paramsBytes ps) = ps
  | [], _ => rfl
  | [p], _ => by
    unfold paramsBytes
    split
    · exact (parseParams_sp _).trans (parseParams_colon p)
    · next hc => exact (parseParams_sp _).trans (parseParams_tok_end p (not_needsColon_wkMid p (by simpa using hc)))
  | p :: q :: ps, h => by
    show parseParams (SP :: (p ++ paramsBytes (q :: ps))) = _
    rw [parseParams_sp, parseParams_tok_lead p _ (h p List.mem_cons_self) (Serialize.spLead_paramsBytes _),
      parseParams_paramsBytes (q :: ps) fun x hx => h x (List.mem_cons_of_mem _ hx)]

theorem wfParams_mids : ∀ (ps : List Bytes), wfParams ps = true → ∀ p ∈ ps.dropLast, WkMid p
  | [_], _, _, hq => nomatch hq
  | p :: r :: ps, h, q, hq => by
    simp only [wfParams, Bool.and_eq_true] at h
    rcases List.mem_cons.mp hq with rfl | hq
    · exact (wfMid_ok q h.1).1
    · exact wfParams_mids (r :: ps) h.2 q hq

open Girc.Proofs.Tags

/-- The tag section of a serialised event. -/
def tagSecE : Option Tags → Option Bytes
  | some t => if t = [] then none else some (tagsJoin t)
  | none => none

theorem tagsWrite_eq (t : Option Tags) (h : ∀ m, t = some m → wfTags m = true) :
    tagsWrite t = secPart AT (tagSecE t) := by
  cases t with
  | none => rfl
  | some m =>
    by_cases hm : m = []
    · subst hm; rfl
    · simp only [tagsWrite, tagsBytes_full m (h m rfl) hm, tagsBytesFull_eq, tagSecE, hm, if_false, secPart]
      rfl

theorem tagSecE_ok (t : Option Tags) (h : ∀ m, t = some m → wfTags m = true) :
    ∀ s, tagSecE t = some s → s ≠ [] ∧ SP ∉ s := by
  intro s hs
  cases t with
  | none => cases hs
  | some m =>
    by_cases hm : m = []
    · simp [tagSecE, hm] at hs
    · simp only [tagSecE, hm, if_false, Option.some.injEq] at hs
      subst hs
      have hok := ((wfTags_iff m).mp (h m rfl)).1
      rw [tagsJoin_eq]
      exact ⟨tagSection_ne_nil _ (tagList_ne_nil m hm) fun x hx => (mem_tagList hok hx).1,
        tagSection_pred (P := (SP ∉ ·)) List.not_mem_nil not_mem_append (by decide) (by decide) _
          fun x hx => ⟨validTag_no_sp _ (mem_tagList hok hx).1,
            fun v hv => (wireSafe_no v ((mem_tagList hok hx).2 v hv)).2⟩⟩

theorem tagSecE_parse (t : Option Tags) (h : ∀ m, t = some m → wfTags m = true) (k : Bytes) :
    AMap.get? (((tagSecE t).map parseTags).getD []) k = AMap.get? (t.getD []) k := by
  cases t with
  | none => rfl
  | some m =>
    by_cases hm : m = []
    · subst hm; rfl
    · have := parseTags_full m (h m rfl) hm k
      rw [tagsBytesFull_eq] at this
      simpa [tagSecE, hm] using this

theorem wireSafeValue_clean (v : Bytes) (h : wireSafeValue v = true) : Clean v := by
  simp only [wireSafeValue, Bool.and_eq_true] at h
  exact ⟨h.1, NoCRLF.of_all h.2 (by decide) (by decide)⟩

theorem validTag_clean (k : Bytes) (h : validTag k = true) : Clean k :=
  Clean.of_ascii (validTag_ascii k h) (validTag_noCRLF k h)

theorem wfParams_clean : ∀ (ps : List Bytes), wfParams ps = true → ∀ p ∈ ps, Clean p
  | [p], h, q, hq => by
    cases List.mem_singleton.mp hq
    exact fieldOK_clean p (by simpa [wfParams] using h)
  | p :: r :: ps, h, q, hq => by
    simp only [wfParams, Bool.and_eq_true] at h
    rcases List.mem_cons.mp hq with rfl | hq
    · exact (wfMid_ok q h.1).2
    · exact wfParams_clean (r :: ps) h.2 q hq

theorem wfEvent_clean (e : Event) (hc : wfCmd e.command = true) (hp : wfParams e.params = true)
    (hs : ∀ s, e.source = some s → wfSource s = true) (ht : ∀ m, e.tags = some m → wfTags m = true) :
    Clean (rawBytes e) := by
  refine Serialize.clean_rawBytes e (wfCmd_ok _ hc).2.1 (wfParams_clean _ hp) ?_ ?_
  · intro s hsrc
    have := hs s hsrc
    simp only [wfSource, Bool.and_eq_true] at this
    exact ⟨(wfSrcPart_ok _ this.1.1.2).1, (wfSrcPart_ok _ this.1.2).1, (wfSrcPart_ok _ this.2).1⟩
  · intro m hm p hpm
    have := ((wfTags_iff m).mp (ht m hm)).1.mem p hpm
    exact ⟨validTag_clean _ this.1, wireSafeValue_clean _ this.2⟩

end Girc.Proofs.RoundtripLemmas

namespace Girc.Proofs.RoundtripLine
open Girc Girc.Model Girc.Spec
open Girc.Proofs.ParseLemmas Girc.Proofs.ParseParams Girc.Proofs.ParseSections Girc.Proofs.ParseTags
open Girc.Proofs.ParseRender Girc.Proofs.RoundtripLemmas Girc.Proofs.RoundtripUtf8 Girc.Proofs.Utf8

/-- Every free-form field of the parse tree is valid UTF-8 (keys and command are ASCII anyway). -/
def fieldsValid (l : Line) : Bool :=
  l.tags.all (fun ts => ts.all fun x => x.2.all validUTF8) &&
  l.pfx.all (fun p => validUTF8 p.name && p.ident.all validUTF8 && p.host.all validUTF8) &&
  l.middles.all (fun m => validUTF8 m.2) && l.trailing.all (fun t => validUTF8 t.2)

/-! ### Validity of a rendered line, section by section (every separator is ASCII) -/

theorem validUTF8_secPart (lead : Byte) (hl : lead < 0x80) (sec : Option Bytes) (R : Bytes) :
    validUTF8 (secPart lead sec ++ R) = (sec.all validUTF8 && validUTF8 R) := by
  cases sec with
  | none => exact (Bool.true_and _).symm
  | some s =>
    show validUTF8 (lead :: (s ++ [SP] ++ R)) = _
    rw [validUTF8_cons_ascii _ _ hl, List.append_assoc, List.singleton_append,
      validUTF8_append_ascii s R SP (by decide)]
    rfl

theorem spaces_ascii (n : Nat) : (spaces n).all (· < 0x80) = true :=
  List.all_eq_true.mpr fun b hb => by rw [(List.mem_replicate.mp hb).2]; decide

theorem validUTF8_renderMiddles (T : Bytes) (hT : T.head?.all (· < 0x80) = true) :
    ∀ (ms : List (Nat × Bytes)),
      validUTF8 (renderMiddles ms ++ T) = (ms.all (fun m => validUTF8 m.2) && validUTF8 T)
  | [] => (Bool.true_and _).symm
  | (k, tok) :: ms => by
    have hlead : (renderMiddles ms ++ T).head?.all (· < 0x80) = true := by
      cases ms with
      | nil => exact hT
      | cons m ms => rfl
    rw [renderMiddles, List.append_assoc, List.append_assoc, validUTF8_ascii_append _ _ (spaces_ascii k),
      validUTF8_append_lead tok _ hlead, validUTF8_renderMiddles T hT ms, List.all_cons, Bool.and_assoc]

theorem validUTF8_trPart (tr : Option (Nat × Bytes)) :
    validUTF8 (trPart tr) = tr.all (fun t => validUTF8 t.2) := by
  rcases tr with _ | ⟨n, t⟩
  · rfl
  · exact (validUTF8_ascii_append _ _ (spaces_ascii n)).trans (validUTF8_cons_ascii COLON t (by decide))

theorem validUTF8_optPart (lead : Byte) (hl : lead < 0x80) (a : Bytes) (o : Option Bytes) :
    validUTF8 (a ++ optPart lead o) = (validUTF8 a && o.all validUTF8) := by
  cases o with
  | none => rw [optPart, List.append_nil]; exact (Bool.and_true _).symm
  | some i => exact validUTF8_append_ascii a i lead hl

theorem validUTF8_renderTag (x : Bytes × Option Bytes) :
    validUTF8 (renderTag x) = (validUTF8 x.1 && x.2.all validUTF8) := by
  obtain ⟨k, ov⟩ := x
  cases ov with
  | none => exact (Bool.and_true _).symm
  | some v =>
    show validUTF8 (k ++ [0x3D] ++ v) = _
    rw [List.append_assoc, List.singleton_append, validUTF8_append_ascii k v 0x3D (by decide)]
    rfl

theorem alnum_facts : ∀ b : UInt8, (isAsciiLetter b || isAsciiDigit b) = true → b < 0x80 ∧
    cmdByte (upper1 b) = true ∧ upper1 b ≠ COLON ∧ upper1 b ≠ AT := by
  decide +kernel

theorem fieldsValid_of_render (l : Line) (hw : wfLine l = true) (h : validUTF8 (render l) = true) :
    fieldsValid l = true := by
  have hcmd : wfCommand l.command = true := by
    simp only [wfLine, Bool.and_eq_true] at hw
    exact hw.1.1.1.1.2
  have hend : (endingBytes l.ending).head?.all (· < 0x80) = true := by
    rcases l.ending with _ | _ | e <;> rfl
  have htr : (trPart l.trailing).head?.all (· < 0x80) = true := by
    rcases l.trailing with _ | ⟨n, t⟩ <;> rfl
  rw [render_shape, validUTF8_append_lead _ _ hend, validUTF8_secPart AT (by decide),
    validUTF8_secPart COLON (by decide), validUTF8_ascii_append _ _ (List.all_eq_true.mpr fun b hb =>
      decide_eq_true (alnum_facts b (List.all_eq_true.mp (wfCommand_alnum _ hcmd).2 b hb)).1),
    validUTF8_renderMiddles _ htr, validUTF8_trPart] at h
  simp only [Bool.and_eq_true] at h
  obtain ⟨⟨ht, hp, hm, htr'⟩, -⟩ := h
  simp only [fieldsValid, Bool.and_eq_true]
  refine ⟨⟨⟨?_, ?_⟩, hm⟩, htr'⟩
  · cases hts : l.tags with
    | none => rfl
    | some ts =>
      rw [hts] at ht
      have : ts.all (fun x => validUTF8 (renderTag x)) = true := by
        simpa [tagSecOf, validUTF8_joinWith _ (show (0x3B : Byte) < 0x80 by decide), List.all_map] using ht
      exact List.all_eq_true.mpr fun x hx => by
        have := List.all_eq_true.mp this x hx
        rw [validUTF8_renderTag, Bool.and_eq_true] at this
        exact this.2
  · cases hps : l.pfx with
    | none => rfl
    | some p =>
      rw [hps] at hp
      have : validUTF8 (renderPrefix p) = true := hp
      rwa [renderPrefix_eq, validUTF8_optPart AT (by decide), validUTF8_optPart BANG (by decide)] at this

theorem wfCmd_upper (c : Bytes) (h : wfCommand c = true) : wfCmd (toUpperAscii c) = true := by
  obtain ⟨hl, hall⟩ := wfCommand_alnum c h
  have hb := fun b hm => (alnum_facts b (List.all_eq_true.mp hall b hm)).2
  match c, hl with
  | x :: xs, _ =>
    have hx := hb x List.mem_cons_self
    have hall' : (toUpperAscii (x :: xs)).all cmdByte = true := by
      rw [toUpperAscii, List.all_map]
      exact List.all_eq_true.mpr fun b hm => (hb b hm).1
    unfold wfCmd
    rw [hall']
    simp [toUpperAscii, hx.2.1, hx.2.2]

theorem mids_meaning {ms : List (Nat × Bytes)} (h : ∀ m ∈ ms, WkMid m.2) (tr : Option (Nat × Bytes)) :
    ∀ p ∈ (ms.map (·.2) ++ trList tr).dropLast, WkMid p := by
  intro p hp
  have hp' : p ∈ ms.map (·.2) := by
    rcases tr with _ | ⟨n, t⟩
    · rw [trList, List.append_nil] at hp; exact List.dropLast_subset _ hp
    · rwa [trList, List.dropLast_concat] at hp
  obtain ⟨m, hm, rfl⟩ := List.mem_map.mp hp'
  exact h m hm

/-- An optional part of a prefix, as the event keeps it (absent = empty). -/
theorem prefixPart_getD (o : Option Bytes) (h : ∀ i, o = some i → wfPrefixPart i = true)
    (hv : ∀ i, o = some i → validUTF8 i = true) :
    (SP ∉ o.getD [] ∧ BANG ∉ o.getD [] ∧ AT ∉ o.getD []) ∧ Clean (o.getD []) := by
  cases o with
  | none => exact ⟨⟨List.not_mem_nil, List.not_mem_nil, List.not_mem_nil⟩, Clean.nil⟩
  | some i =>
    obtain ⟨_, h1, h2, h3, h4⟩ := wfPrefixPart_ok i (h i rfl)
    exact ⟨⟨h1, h2, h3⟩, hv i rfl, h4⟩

theorem wfTags_meaning (ts : List (Bytes × Option Bytes)) (hw : ∀ x ∈ ts, wfTag x = true)
    (hv : ∀ x ∈ ts, ∀ v, x.2 = some v → validUTF8 v = true)
    (hlen : (tagsBytesFull (meaningTags ts)).length ≤ maxTagLength) :
    wfTags (meaningTags ts) = true := by
  refine (Tags.wfTags_iff _).mpr ⟨Tags.TagsOK.meaningTags fun x hx => ?_, fun _ => hlen⟩
  obtain ⟨hk, hval⟩ := wfTag_ok x (hw x hx)
  refine ⟨hk, ?_⟩
  cases hx2 : x.2 with
  | none => rfl
  | some v =>
    have h1 := hval v hx2
    simp only [wfTagValue, Bool.and_eq_true] at h1
    exact Bool.and_eq_true_iff.mpr ⟨hv x hx v hx2, h1.1⟩

end Girc.Proofs.RoundtripLine

namespace Girc.Proofs.Roundtrip
open Girc Girc.Model Girc.Spec
open Girc.Proofs.ParseLemmas Girc.Proofs.ParseParams Girc.Proofs.ParseSections
open Girc.Proofs.ParseRender Girc.Proofs.RoundtripLemmas

/-- The round trip from what it needs: the buffer is serialised verbatim, and each section is read back. -/
theorem roundtrip_core (e : Event) (hclean : Clean (rawBytes e)) (hlen : 2 ≤ (rawBytes e).length)
    (hcmd : CmdOK e.command) (hupper : toUpperAscii e.command = e.command)
    (hparams : ∀ p ∈ e.params.dropLast, WkMid p)
    (hsrc : ∀ s, e.source = some s → sourceBytes s ≠ [] ∧ SP ∉ sourceBytes s ∧ parseSource (sourceBytes s) = s)
    (htags : ∀ m, e.tags = some m → wfTags m = true) :
    ∃ e', parseEvent (eventBytes e) = some e' ∧ EventEquiv e' e := by
  have htrim : trimCRLF (eventBytes e) = rawBytes e := by
    rw [show eventBytes e = rawBytes e from hclean.filter, trimCRLF_id _ hclean.2]
  refine ⟨_, parseEvent_sections _ _ _ _ _ (htrim.trans (by rw [Serialize.rawBytes_eq, tagsWrite_eq _ htags])) (htrim ▸ hlen)
    (tagSecE_ok e.tags htags) (forall_map_some.mpr fun s hs => ⟨(hsrc s hs).1, (hsrc s hs).2.1⟩)
    hcmd.ne hcmd.sp hcmd.at_ hcmd.col (Serialize.spLead_paramsBytes _), ?_⟩
  refine ⟨hupper, parseParams_paramsBytes _ hparams, ?_, tagSecE_parse e.tags htags⟩
  cases hsrc0 : e.source with
  | none => rfl
  | some src => exact congrArg some (hsrc src hsrc0).2.2

theorem roundtrip_event (e : Event) (h : WFEvent e = true) :
    ∃ e', parseEvent (eventBytes e) = some e' ∧ EventEquiv e' e := by
  simp only [WFEvent, Bool.and_eq_true, decide_eq_true_eq, Option.all_eq_true] at h
  obtain ⟨⟨⟨⟨hcmd, hparams⟩, hsrc⟩, htags⟩, hlen⟩ := h
  obtain ⟨hcmdOK, -, hupper⟩ := wfCmd_ok e.command hcmd
  exact roundtrip_core e (wfEvent_clean e hcmd hparams hsrc htags) hlen hcmdOK hupper (wfParams_mids _ hparams)
    (fun s hs => wfSource_ok s (hsrc s hs)) htags

/-- Fields of a grammatical line are valid UTF-8 (C01's quantifier) and its tag section fits. -/
def lineClean (l : Line) : Bool :=
  validUTF8 (render l) && (match l.tags with
    | some ts => (tagsBytesFull (meaningTags ts)).length ≤ maxTagLength
    | none => true)

theorem roundtrip_line (l : Line) (h : wfLine l = true) (hc : lineClean l = true) :
    ∃ e₁ e₂, parseEvent (render l) = some e₁ ∧ parseEvent (eventBytes e₁) = some e₂ ∧ EventEquiv e₂ e₁ := by
  simp only [lineClean, Bool.and_eq_true] at hc
  have hf := RoundtripLine.fieldsValid_of_render l h hc.1
  have hpr := ParseRender.parse_render l h
  obtain ⟨tags, pfx, cmd, ms, tr, ending⟩ := l
  simp only [RoundtripLine.fieldsValid, Bool.and_eq_true, Option.all_eq_true, List.all_eq_true] at hf
  obtain ⟨⟨⟨hft, hfp⟩, hfm⟩, hftr⟩ := hf
  simp only [wfLine, Bool.and_eq_true, decide_eq_true_eq, Option.all_eq_true, List.all_eq_true] at h
  obtain ⟨⟨⟨⟨⟨⟨htags, hpfx⟩, hcmd⟩, hmid⟩, -⟩, htr⟩, -⟩ := h
  obtain ⟨hcmdOK, hcmdClean, hupper⟩ := wfCmd_ok _ (RoundtripLine.wfCmd_upper cmd hcmd)
  have hms := fun m hm => wfMiddle_ok m.2 (hmid m hm)
  -- the source of the event: each part keeps clear of the separators and is clean
  have hsrc : ∀ p, pfx = some p → (sourceBytes (meaningSource p) ≠ [] ∧ SP ∉ sourceBytes (meaningSource p) ∧
      parseSource (sourceBytes (meaningSource p)) = meaningSource p) ∧
      Clean p.name ∧ Clean (p.ident.getD []) ∧ Clean (p.host.getD []) := by
    intro p hp
    obtain ⟨hn, hi, hh⟩ := wfPrefix_parts p (hpfx p hp)
    have hv := hfp p hp
    obtain ⟨n1, n2, n3, n4, n5⟩ := wfPrefixPart_ok p.name hn
    obtain ⟨i1, i2⟩ := RoundtripLine.prefixPart_getD p.ident hi hv.1.2
    obtain ⟨h1, h2⟩ := RoundtripLine.prefixPart_getD p.host hh hv.2
    exact ⟨sourceBytes_ok (meaningSource p) n1 ⟨n2, n3, n4⟩ i1 ⟨h1.1, h1.2.1⟩, ⟨hv.1.1, n5⟩, i2, h2⟩
  have htg : ∀ ts, tags = some ts → wfTags (meaningTags ts) = true := fun ts hts => by
    subst hts
    have hlen := hc.2
    simp only [decide_eq_true_eq] at hlen
    simp only [Bool.and_eq_true, List.all_eq_true] at htags
    exact RoundtripLine.wfTags_meaning ts htags.2 (hft ts rfl) hlen
  refine (roundtrip_core (meaning ⟨tags, pfx, cmd, ms, tr, ending⟩) ?_ ?_ hcmdOK hupper
    (RoundtripLine.mids_meaning (fun m hm => (hms m hm).1) tr)
    (forall_map_some.mpr fun p hp => (hsrc p hp).1) (forall_map_some.mpr htg)).elim
    fun e₂ he => ⟨_, e₂, hpr, he.1, he.2⟩
  · refine Serialize.clean_rawBytes _ hcmdClean ?_ (forall_map_some.mpr fun p hp => (hsrc p hp).2)
      (forall_map_some.mpr fun ts hts p hpm => ?_)
    · intro q hq
      rcases List.mem_append.mp hq with hq | hq
      · obtain ⟨m, hm, rfl⟩ := List.mem_map.mp hq
        exact ⟨hfm m hm, (hms m hm).2⟩
      · rcases tr with _ | ⟨n, t⟩
        · cases hq
        · cases List.mem_singleton.mp hq
          exact ⟨hftr _ rfl, .of_all (f := trailByte) htr (by decide) (by decide)⟩
    · have := ((Tags.wfTags_iff _).mp (htg ts hts)).1.mem p hpm
      exact ⟨validTag_clean _ this.1, wireSafeValue_clean _ this.2⟩
  · have hl : (meaning ⟨tags, pfx, cmd, ms, tr, ending⟩).command.length = cmd.length := List.length_map _
    have := (wfCommand_ok cmd hcmd).2
    simp only [rawBytes, List.length_append]
    omega

end Girc.Proofs.Roundtrip
