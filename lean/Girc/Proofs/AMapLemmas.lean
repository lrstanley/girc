import Girc.Base.AMap
/-
  Association-list maps through `get?` and `keys`: what `set`, `erase` and filtering by key do to lookups,
  and, for duplicate-free keys, membership of a pair as a lookup (`mem_iff_get?`).
-/
namespace Girc.Proofs.InvBase
open Girc

variable {β : Type}

theorem get?_nil (k : Bytes) : AMap.get? ([] : AMap β) k = none := rfl

theorem get?_cons (m : AMap β) (a k : Bytes) (b : β) :
    AMap.get? ((a, b) :: m) k = if k = a then some b else AMap.get? m k := by
  unfold AMap.get?
  rw [List.lookup_cons]
  by_cases h : k = a
  · rw [if_pos h, beq_iff_eq.mpr h]
  · rw [if_neg h, beq_eq_false_iff_ne.mpr h]

theorem keys_nil : AMap.keys ([] : AMap β) = [] := rfl
theorem keys_cons (m : AMap β) (a : Bytes) (b : β) : AMap.keys ((a, b) :: m) = a :: AMap.keys m := rfl

theorem mem_keys_of_mem {m : AMap β} {k : Bytes} {v : β} (h : (k, v) ∈ m) : k ∈ AMap.keys m :=
  List.mem_map.mpr ⟨(k, v), h, rfl⟩

theorem mem_keys_iff (m : AMap β) (k : Bytes) : k ∈ AMap.keys m ↔ ∃ v, (k, v) ∈ m := by
  constructor
  · intro h
    obtain ⟨⟨a, b⟩, hp, rfl⟩ := List.mem_map.mp h
    exact ⟨b, hp⟩
  · rintro ⟨v, hv⟩; exact mem_keys_of_mem hv

/-- No `Nodup` needed: a successful lookup returns a member. -/
theorem get?_some_mem {m : AMap β} {k : Bytes} {v : β} (h : AMap.get? m k = some v) : (k, v) ∈ m := by
  obtain ⟨l₁, l₂, rfl, _⟩ := List.lookup_eq_some_iff.mp h
  exact List.mem_append_right _ List.mem_cons_self

theorem get?_some_mem_keys {m : AMap β} {k : Bytes} {v : β} (h : AMap.get? m k = some v) :
    k ∈ AMap.keys m := mem_keys_of_mem (get?_some_mem h)

theorem get?_isSome_iff (m : AMap β) (k : Bytes) : (AMap.get? m k).isSome = true ↔ k ∈ AMap.keys m := by
  unfold AMap.get? AMap.keys
  rw [List.lookup_isSome_iff, List.mem_map]
  constructor
  · rintro ⟨p, hp, e⟩; exact ⟨p, hp, (beq_iff_eq.mp e).symm⟩
  · rintro ⟨p, hp, e⟩; exact ⟨p, hp, beq_iff_eq.mpr e.symm⟩

theorem mem_keys_iff_get? (m : AMap β) (k : Bytes) : k ∈ AMap.keys m ↔ ∃ v, AMap.get? m k = some v := by
  rw [← get?_isSome_iff, Option.isSome_iff_exists]

theorem get?_eq_none_iff (m : AMap β) (k : Bytes) : AMap.get? m k = none ↔ k ∉ AMap.keys m := by
  rw [← get?_isSome_iff, Bool.not_eq_true, Option.isSome_eq_false_iff, Option.isNone_iff_eq_none]

/-- A map whose lookups are those of `m` except under `N`, where it answers `o`: `AMap.set`,
    `AMap.erase`, and "store, then drop if empty" all have this shape. -/
theorem get?_eq_some_of_point {m m' : AMap β} {N : Bytes} {o : Option β}
    (hget : ∀ x, AMap.get? m' x = if x = N then o else AMap.get? m x) {x : Bytes} {w : β} :
    AMap.get? m' x = some w ↔ (x = N ∧ o = some w) ∨ (x ≠ N ∧ AMap.get? m x = some w) := by
  rw [hget]
  by_cases e : x = N
  · rw [if_pos e]; exact ⟨fun h => Or.inl ⟨e, h⟩, fun h => h.elim (fun h => h.2) (fun h => absurd e h.1)⟩
  · rw [if_neg e]; exact ⟨fun h => Or.inr ⟨e, h⟩, fun h => h.elim (fun h => absurd h.1 e) (fun h => h.2)⟩

theorem contains_iff (m : AMap β) (k : Bytes) : AMap.contains m k = true ↔ k ∈ AMap.keys m :=
  get?_isSome_iff m k

theorem contains_iff_get? (m : AMap β) (k : Bytes) : AMap.contains m k = true ↔ ∃ v, AMap.get? m k = some v := by
  rw [contains_iff, mem_keys_iff_get?]

theorem contains_eq_false_iff (m : AMap β) (k : Bytes) : AMap.contains m k = false ↔ AMap.get? m k = none := by
  unfold AMap.contains
  rw [Option.isSome_eq_false_iff, Option.isNone_iff_eq_none]

theorem contains_eq_false_iff_not_mem (m : AMap β) (k : Bytes) : AMap.contains m k = false ↔ k ∉ AMap.keys m := by
  rw [contains_eq_false_iff, get?_eq_none_iff]

theorem any_key_iff (m : AMap β) (k : Bytes) : m.any (fun p => p.1 == k) = true ↔ k ∈ AMap.keys m := by
  simp only [List.any_eq_true, AMap.keys, List.mem_map, beq_iff_eq]

theorem get?_map_repl (m : AMap β) (k k' : Bytes) (v : β) :
    AMap.get? (m.map fun p => if p.1 == k then (k, v) else p) k' =
      if k' = k then (AMap.get? m k).map (fun _ => v) else AMap.get? m k' := by
  induction m with
  | nil => rw [List.map_nil, get?_nil, get?_nil, Option.map_none, ite_self]
  | cons p m ih =>
    obtain ⟨a, b⟩ := p
    rw [List.map_cons]
    by_cases hak : a = k
    · subst hak
      rw [if_pos (beq_self_eq_true a), get?_cons, get?_cons, get?_cons, ih, if_pos rfl]
      by_cases h : k' = a
      · rw [if_pos h, if_pos h, Option.map_some]
      · rw [if_neg h, if_neg h, if_neg h, if_neg h]
    · rw [if_neg (by rwa [beq_iff_eq]), get?_cons, get?_cons, get?_cons, ih, if_neg (Ne.symm hak)]
      by_cases h : k' = k
      · rw [if_pos h, if_pos h, if_neg (h ▸ Ne.symm hak)]
      · rw [if_neg h, if_neg h]

theorem get?_set (m : AMap β) (k k' : Bytes) (v : β) :
    AMap.get? (AMap.set m k v) k' = if k' = k then some v else AMap.get? m k' := by
  unfold AMap.set
  by_cases hk : k ∈ AMap.keys m
  · obtain ⟨w, hw⟩ := (mem_keys_iff_get? m k).mp hk
    rw [if_pos ((any_key_iff m k).mpr hk), get?_map_repl, hw, Option.map_some]
  · have hn := (get?_eq_none_iff m k).mpr hk
    rw [if_neg (fun e => hk ((any_key_iff m k).mp e))]
    rw [show AMap.get? (m ++ [(k, v)]) k' = (AMap.get? m k').or (AMap.get? [(k, v)] k') from List.lookup_append,
      get?_cons, get?_nil]
    by_cases h : k' = k
    · rw [if_pos h, if_pos h, h, hn, Option.none_or]
    · rw [if_neg h, if_neg h, Option.or_none]

theorem get?_set_self (m : AMap β) (k : Bytes) (v : β) : AMap.get? (AMap.set m k v) k = some v := by
  rw [get?_set, if_pos rfl]

theorem set_ne_nil (m : AMap β) (k : Bytes) (v : β) : AMap.set m k v ≠ [] := fun e => by
  have h := get?_set_self m k v
  rw [e] at h
  cases h

theorem get?_set_ne (m : AMap β) {k k' : Bytes} (v : β) (h : k' ≠ k) :
    AMap.get? (AMap.set m k v) k' = AMap.get? m k' := by
  rw [get?_set, if_neg h]

theorem get?_set_eq_some_iff (m : AMap β) (k x : Bytes) (v w : β) :
    AMap.get? (AMap.set m k v) x = some w ↔ (x = k ∧ w = v) ∨ (x ≠ k ∧ AMap.get? m x = some w) := by
  rw [get?_eq_some_of_point (fun x => get?_set m k x v), Option.some.injEq, eq_comm (a := v)]

theorem keys_set_of_mem (m : AMap β) {k : Bytes} (v : β) (h : k ∈ AMap.keys m) :
    AMap.keys (AMap.set m k v) = AMap.keys m := by
  unfold AMap.set
  rw [if_pos ((any_key_iff m k).mpr h)]
  unfold AMap.keys
  rw [List.map_map]
  apply List.map_congr_left
  intro p _
  show (if p.1 == k then (k, v) else p).1 = p.1
  split
  · next e => exact (beq_iff_eq.mp e).symm
  · rfl

theorem keys_set_of_not_mem (m : AMap β) {k : Bytes} (v : β) (h : k ∉ AMap.keys m) :
    AMap.keys (AMap.set m k v) = AMap.keys m ++ [k] := by
  unfold AMap.set
  rw [if_neg (fun e => h ((any_key_iff m k).mp e))]
  exact List.map_append

theorem mem_keys_set (m : AMap β) (k k' : Bytes) (v : β) :
    k' ∈ AMap.keys (AMap.set m k v) ↔ k' = k ∨ k' ∈ AMap.keys m := by
  rw [mem_keys_iff_get?, mem_keys_iff_get?, get?_set]
  by_cases h : k' = k
  · rw [if_pos h]; exact ⟨fun _ => Or.inl h, fun _ => ⟨v, rfl⟩⟩
  · rw [if_neg h]; exact ⟨Or.inr, fun h' => h'.resolve_left h⟩

theorem keys_set_nodup {m : AMap β} (hnd : (AMap.keys m).Nodup) (k : Bytes) (v : β) :
    (AMap.keys (AMap.set m k v)).Nodup := by
  by_cases h : k ∈ AMap.keys m
  · rw [keys_set_of_mem m v h]; exact hnd
  · rw [keys_set_of_not_mem m v h]
    exact List.nodup_append.mpr ⟨hnd, List.nodup_cons.mpr ⟨List.not_mem_nil, List.nodup_nil⟩,
      fun a ha b hb => by rw [List.mem_singleton.mp hb]; exact fun e => h (e ▸ ha)⟩

theorem set_set (m : AMap β) (k : Bytes) (v v' : β) :
    AMap.set (AMap.set m k v) k v' = AMap.set m k v' := by
  have hany : (AMap.set m k v).any (fun p => p.1 == k) = true :=
    (any_key_iff _ k).mpr ((mem_keys_set m k k v).mpr (Or.inl rfl))
  rw [show AMap.set (AMap.set m k v) k v' = _ from if_pos hany]
  unfold AMap.set
  cases h : m.any (fun p => p.1 == k) with
  | true =>
    rw [if_pos rfl, if_pos rfl, List.map_map]
    refine List.map_congr_left fun p _ => ?_
    cases hp : p.1 == k <;>
      simp only [Function.comp_apply, hp, Bool.false_eq_true, if_true, if_false, beq_self_eq_true]
  | false =>
    have hm : m.map (fun p => if p.1 == k then (k, v') else p) = m :=
      (List.map_congr_left (g := id) fun p hp => if_neg (List.any_eq_false.mp h p hp)).trans (List.map_id m)
    rw [if_neg Bool.false_ne_true, if_neg Bool.false_ne_true, List.map_append, hm, List.map_singleton,
      if_pos (beq_self_eq_true k)]

theorem get?_set_set (m : AMap β) (k : Bytes) (v w : β) (x : Bytes) :
    AMap.get? (AMap.set (AMap.set m k v) k w) x = AMap.get? (AMap.set m k w) x := by
  rw [set_set]


theorem get?_set_same {m : AMap β} {k : Bytes} {v : β} (h : AMap.get? m k = some v) (x : Bytes) :
    AMap.get? m x = AMap.get? (AMap.set m k v) x := by
  rw [get?_set]
  by_cases e : x = k
  · rw [if_pos e, e, h]
  · rw [if_neg e]

theorem erase_nil (k : Bytes) : AMap.erase ([] : AMap β) k = [] := rfl

theorem erase_cons (m : AMap β) (a k : Bytes) (b : β) :
    AMap.erase ((a, b) :: m) k = if a = k then AMap.erase m k else (a, b) :: AMap.erase m k := by
  unfold AMap.erase
  rw [List.filter_cons]
  by_cases h : a = k
  · rw [if_pos h, if_neg (by rw [bne_iff_ne]; exact fun h' => h' h)]
  · rw [if_neg h, if_pos (by rwa [bne_iff_ne])]

theorem get?_erase (m : AMap β) (k k' : Bytes) :
    AMap.get? (AMap.erase m k) k' = if k' = k then none else AMap.get? m k' := by
  induction m with
  | nil => rw [erase_nil, get?_nil, ite_self]
  | cons p m ih =>
    obtain ⟨a, b⟩ := p
    rw [erase_cons, get?_cons]
    by_cases hak : a = k
    · rw [if_pos hak, ih, hak]
      by_cases h : k' = k
      · rw [if_pos h, if_pos h]
      · rw [if_neg h, if_neg h, if_neg h]
    · rw [if_neg hak, get?_cons, ih]
      by_cases h : k' = a
      · rw [if_pos h, if_pos h, if_neg (h ▸ hak)]
      · rw [if_neg h, if_neg h]

theorem get?_erase_self (m : AMap β) (k : Bytes) : AMap.get? (AMap.erase m k) k = none := by
  rw [get?_erase, if_pos rfl]

theorem get?_erase_ne (m : AMap β) {k k' : Bytes} (h : k' ≠ k) :
    AMap.get? (AMap.erase m k) k' = AMap.get? m k' := by
  rw [get?_erase, if_neg h]

theorem get?_erase_eq_some_iff (m : AMap β) (k x : Bytes) (w : β) :
    AMap.get? (AMap.erase m k) x = some w ↔ x ≠ k ∧ AMap.get? m x = some w := by
  rw [get?_eq_some_of_point (fun x => get?_erase m k x)]
  exact ⟨fun h => h.elim (fun h => nomatch h.2) id, Or.inr⟩

theorem keys_erase (m : AMap β) (k : Bytes) :
    AMap.keys (AMap.erase m k) = (AMap.keys m).filter (fun a => a != k) := by
  unfold AMap.keys AMap.erase
  rw [List.filter_map]
  rfl

theorem mem_keys_erase (m : AMap β) (k k' : Bytes) :
    k' ∈ AMap.keys (AMap.erase m k) ↔ k' ≠ k ∧ k' ∈ AMap.keys m := by
  rw [keys_erase, List.mem_filter, bne_iff_ne]
  exact And.comm

theorem keys_erase_nodup {m : AMap β} (hnd : (AMap.keys m).Nodup) (k : Bytes) :
    (AMap.keys (AMap.erase m k)).Nodup := by
  rw [keys_erase]; exact hnd.sublist List.filter_sublist

theorem erase_of_not_mem_keys {m : AMap β} {k : Bytes} (h : k ∉ AMap.keys m) : AMap.erase m k = m := by
  unfold AMap.erase
  rw [List.filter_eq_self]
  rintro ⟨a, b⟩ hp
  rw [bne_iff_ne]
  exact fun e => h (e ▸ mem_keys_of_mem hp)

theorem get?_set_some {m : AMap β} {k k' : Bytes} {v w : β} (h : AMap.get? (AMap.set m k v) k' = some w) :
    (k' = k ∧ w = v) ∨ (k' ≠ k ∧ AMap.get? m k' = some w) :=
  (get?_set_eq_some_iff m k k' v w).mp h

theorem get?_erase_some {m : AMap β} {k k' : Bytes} {w : β} (h : AMap.get? (AMap.erase m k) k' = some w) :
    k' ≠ k ∧ AMap.get? m k' = some w :=
  (get?_erase_eq_some_iff m k k' w).mp h

theorem contains_set (m : AMap β) (k k' : Bytes) (v : β) :
    AMap.contains (AMap.set m k v) k' = true ↔ k' = k ∨ AMap.contains m k' = true := by
  rw [contains_iff, contains_iff]
  exact mem_keys_set m k k' v

theorem contains_set_of_contains (m : AMap β) (k : Bytes) {k' : Bytes} (v : β) (h : AMap.contains m k' = true) :
    AMap.contains (AMap.set m k v) k' = true :=
  (contains_set m k k' v).mpr (Or.inr h)

theorem contains_of_get? {m : AMap β} {k : Bytes} {v : β} (h : AMap.get? m k = some v) :
    AMap.contains m k = true :=
  (contains_iff_get? m k).mpr ⟨v, h⟩

theorem contains_erase (m : AMap β) (k k' : Bytes) :
    AMap.contains (AMap.erase m k) k' = true ↔ k' ≠ k ∧ AMap.contains m k' = true := by
  rw [contains_iff, contains_iff]
  exact mem_keys_erase m k k'

theorem get?_filter_key (m : AMap β) (q : Bytes → Bool) (k : Bytes) :
    AMap.get? (List.filter (fun p => q p.1) m) k = if q k = true then AMap.get? m k else none := by
  induction m with
  | nil => rw [List.filter_nil, get?_nil]; split <;> rfl
  | cons p m ih =>
    obtain ⟨a, b⟩ := p
    by_cases hq : q a = true
    · rw [List.filter_cons_of_pos (by exact hq), get?_cons, get?_cons, ih]
      by_cases e : k = a
      · rw [if_pos e, if_pos e, e, if_pos hq]
      · rw [if_neg e, if_neg e]
    · rw [List.filter_cons_of_neg (by exact hq), get?_cons, ih]
      by_cases e : k = a
      · rw [e, if_neg hq, if_neg hq]
      · rw [if_neg e]

theorem keys_filter_nodup {m : AMap β} (h : (AMap.keys m).Nodup) (q : Bytes × β → Bool) :
    (AMap.keys (List.filter q m)).Nodup :=
  h.sublist (List.Sublist.map _ List.filter_sublist)


theorem mem_iff_get? {m : AMap β} (hnd : (AMap.keys m).Nodup) (k : Bytes) (v : β) :
    (k, v) ∈ m ↔ AMap.get? m k = some v := by
  constructor
  · intro h
    induction m with
    | nil => cases h
    | cons p m ih =>
      obtain ⟨a, b⟩ := p
      rw [keys_cons, List.nodup_cons] at hnd
      rw [get?_cons]
      rcases List.mem_cons.mp h with e | hm
      · cases e; rw [if_pos rfl]
      · have hk : k ≠ a := fun e => hnd.1 (e ▸ mem_keys_of_mem hm)
        rw [if_neg hk]; exact ih hnd.2 hm
  · exact get?_some_mem

theorem mem_get? {m : AMap β} (hnd : (AMap.keys m).Nodup) {k : Bytes} {v : β} (h : (k, v) ∈ m) :
    AMap.get? m k = some v := (mem_iff_get? hnd k v).mp h

theorem mem_congr_of_get? {m m' : AMap β} (hnd : (AMap.keys m).Nodup) (hnd' : (AMap.keys m').Nodup)
    (h : ∀ k, AMap.get? m' k = AMap.get? m k) (k : Bytes) (v : β) : (k, v) ∈ m' ↔ (k, v) ∈ m := by
  rw [mem_iff_get? hnd, mem_iff_get? hnd', h]

theorem mem_erase_iff (m : AMap β) (k k' : Bytes) (v' : β) :
    (k', v') ∈ AMap.erase m k ↔ k' ≠ k ∧ (k', v') ∈ m := by
  unfold AMap.erase
  rw [List.mem_filter, bne_iff_ne]
  exact And.comm

theorem mem_set_iff {m : AMap β} (hnd : (AMap.keys m).Nodup) (k k' : Bytes) (v v' : β) :
    (k', v') ∈ AMap.set m k v ↔ (k' = k ∧ v' = v) ∨ (k' ≠ k ∧ (k', v') ∈ m) := by
  rw [mem_iff_get? (keys_set_nodup hnd k v), get?_set_eq_some_iff, mem_iff_get? hnd]

theorem mem_set_self {m : AMap β} (hnd : (AMap.keys m).Nodup) (k : Bytes) (v : β) : (k, v) ∈ AMap.set m k v :=
  (mem_set_iff hnd k k v v).mpr (Or.inl ⟨rfl, rfl⟩)

/-- No `Nodup` needed for this direction. -/
theorem mem_set_cases {m : AMap β} {k k' : Bytes} {v v' : β} (h : (k', v') ∈ AMap.set m k v) :
    (k', v') ∈ m ∨ (k' = k ∧ v' = v) := by
  unfold AMap.set at h
  split at h
  · obtain ⟨q, hq, e⟩ := List.mem_map.mp h
    split at e
    · cases e; exact Or.inr ⟨rfl, rfl⟩
    · exact Or.inl (e ▸ hq)
  · rcases List.mem_append.mp h with h | h
    · exact Or.inl h
    · cases List.mem_singleton.mp h; exact Or.inr ⟨rfl, rfl⟩

end Girc.Proofs.InvBase
