import Girc.Base.Bytes
/-
  The byte-string helpers of `Base/Bytes.lean` by the shape of their input: `indexOf` (where the first
  occurrence is), `splitOnByte` against `joinWith`, and what is kept when strings are joined (`joinWith_pred`).
-/
namespace Girc.Proofs.BytesLemmas
open Girc

theorem indexOf_none (b : Byte) : ∀ (a : Bytes), b ∉ a → indexOf b a = none
  | [], _ => rfl
  | x :: a, h => by
    rw [indexOf, if_neg fun e : x = b => h (e ▸ List.mem_cons_self),
      indexOf_none b a fun hm => h (List.mem_cons_of_mem _ hm)]
    rfl

theorem indexOf_append_cons (b : Byte) (rest : Bytes) : ∀ (a : Bytes), b ∉ a → indexOf b (a ++ b :: rest) = some a.length
  | [], _ => if_pos rfl
  | x :: a, h => by
    rw [List.cons_append, indexOf, if_neg fun e : x = b => h (e ▸ List.mem_cons_self),
      indexOf_append_cons b rest a fun hm => h (List.mem_cons_of_mem _ hm)]
    rfl

theorem indexOf_eq_some {b : Byte} : ∀ {s : Bytes} {n : Nat}, indexOf b s = some n →
    ∃ a r, s = a ++ b :: r ∧ a.length = n ∧ b ∉ a
  | [], _, h => nomatch h
  | x :: xs, n, h => by
    unfold indexOf at h
    split at h
    · next hx => cases h; exact ⟨[], xs, by rw [hx]; rfl, rfl, List.not_mem_nil⟩
    · next hx =>
      cases h' : indexOf b xs with
      | none => rw [h'] at h; cases h
      | some m =>
        rw [h'] at h; cases h
        obtain ⟨a, r, rfl, rfl, hb⟩ := indexOf_eq_some h'
        exact ⟨x :: a, r, rfl, rfl, fun hm => (List.mem_cons.mp hm).elim (fun e => hx e.symm) hb⟩

theorem indexOf_lt {b : Byte} {s : Bytes} {n : Nat} (h : indexOf b s = some n) : n < s.length := by
  obtain ⟨a, r, rfl, rfl, -⟩ := indexOf_eq_some h
  rw [List.length_append, List.length_cons]
  omega

theorem splitOnByte_ne_nil (sep : Byte) : ∀ s : Bytes, splitOnByte sep s ≠ []
  | [] => List.cons_ne_nil _ _
  | x :: xs => by
    unfold splitOnByte
    split
    · exact List.cons_ne_nil _ _
    · split <;> exact List.cons_ne_nil _ _

theorem splitOnByte_cons_sep (sep : Byte) (xs : Bytes) :
    splitOnByte sep (sep :: xs) = [] :: splitOnByte sep xs := by
  rw [splitOnByte, if_pos rfl]

theorem splitOnByte_cons_ne {sep x : Byte} (hx : x ≠ sep) {xs p : Bytes} {ps : List Bytes}
    (h : splitOnByte sep xs = p :: ps) :
    splitOnByte sep (x :: xs) = (x :: p) :: ps := by
  rw [splitOnByte, if_neg hx, h]

theorem splitOnByte_append_sep (sep : Byte) (a b : Bytes) :
    splitOnByte sep (a ++ sep :: b) = splitOnByte sep a ++ splitOnByte sep b := by
  induction a with
  | nil => exact splitOnByte_cons_sep sep b
  | cons x a ih =>
    rw [List.cons_append]
    by_cases hx : x = sep
    · rw [hx, splitOnByte_cons_sep, splitOnByte_cons_sep, ih, List.cons_append]
    · cases hs : splitOnByte sep a with
      | nil => exact absurd hs (splitOnByte_ne_nil sep a)
      | cons p ps =>
        rw [splitOnByte_cons_ne hx hs, splitOnByte_cons_ne hx (by rw [ih, hs]; rfl)]
        rfl

theorem splitOnByte_of_not_mem (sep : Byte) : ∀ a : Bytes, sep ∉ a → splitOnByte sep a = [a]
  | [], _ => rfl
  | x :: a, h =>
    splitOnByte_cons_ne (fun e : x = sep => h (by rw [← e]; exact List.mem_cons_self))
      (splitOnByte_of_not_mem sep a (fun hm => h (List.mem_cons_of_mem _ hm)))

theorem splitOnByte_single (sep : Byte) : ∀ (s p : Bytes), splitOnByte sep s = [p] → p = s
  | [], p, h => (List.cons.inj h).1.symm
  | x :: xs, p, h => by
    by_cases hx : x = sep
    · rw [hx, splitOnByte_cons_sep] at h
      exact absurd (List.cons.inj h).2 (splitOnByte_ne_nil sep xs)
    · cases hsp : splitOnByte sep xs with
      | nil => exact absurd hsp (splitOnByte_ne_nil sep xs)
      | cons q qs =>
        rw [splitOnByte_cons_ne hx hsp] at h
        obtain ⟨h1, h2⟩ := List.cons.inj h
        rw [← h1, splitOnByte_single sep xs q (by rw [hsp, h2])]

theorem splitOnByte_getLast (sep : Byte) : ∀ (s : Bytes), s.getLast? = some sep →
    ∃ p init, splitOnByte sep s = (p :: init) ++ [[]]
  | [], h => nomatch h
  | [x], h => by
    rw [List.getLast?_singleton, Option.some.injEq] at h
    rw [h]
    exact ⟨[], [], splitOnByte_cons_sep sep []⟩
  | x :: y :: ys, h => by
    obtain ⟨p, init, hsp⟩ := splitOnByte_getLast sep (y :: ys) (by rwa [List.getLast?_cons_cons] at h)
    by_cases hx : x = sep
    · rw [hx, splitOnByte_cons_sep, hsp]
      exact ⟨[], p :: init, rfl⟩
    · rw [splitOnByte_cons_ne hx hsp]
      exact ⟨x :: p, init, rfl⟩

theorem splitOnByte_joinWith (sep : Byte) :
    ∀ items : List Bytes, items ≠ [] → (∀ it ∈ items, sep ∉ it) →
      splitOnByte sep (joinWith [sep] items) = items
  | [], h, _ => absurd rfl h
  | [p], _, hs => splitOnByte_of_not_mem sep p (hs p List.mem_cons_self)
  | p :: q :: ps, _, hs => by
    show splitOnByte sep (p ++ [sep] ++ joinWith [sep] (q :: ps)) = _
    rw [List.append_assoc, List.singleton_append, splitOnByte_append_sep,
      splitOnByte_of_not_mem sep p (hs p List.mem_cons_self),
      splitOnByte_joinWith sep (q :: ps) (List.cons_ne_nil _ _) fun it hit => hs it (List.mem_cons_of_mem _ hit)]
    rfl

theorem splitOnByte_step (b : Byte) : ∀ s : Bytes, splitOnByte b s =
    match indexOf b s with
    | none => [s]
    | some i => s.take i :: splitOnByte b (s.drop (i + 1))
  | [] => by simp [splitOnByte, indexOf]
  | x :: xs => by
    have ih := splitOnByte_step b xs
    simp only [splitOnByte, indexOf]
    by_cases hx : x = b
    · simp [hx]
    · simp only [hx, if_false]
      rw [ih]
      cases indexOf b xs with
      | none => simp
      | some i => simp

theorem joinWith_splitOnByte (b : Byte) : ∀ s : Bytes, joinWith [b] (splitOnByte b s) = s
  | [] => by simp [splitOnByte, joinWith]
  | x :: xs => by
    have ih := joinWith_splitOnByte b xs
    unfold splitOnByte
    by_cases hx : x = b
    · simp only [hx, if_true]
      cases hps : splitOnByte b xs with
      | nil => exact absurd hps (splitOnByte_ne_nil b xs)
      | cons p ps => rw [hps] at ih; simp [joinWith, ih]
    · simp only [hx, if_false]
      cases hps : splitOnByte b xs with
      | nil => exact absurd hps (splitOnByte_ne_nil b xs)
      | cons p ps =>
        rw [hps] at ih
        cases ps with
        | nil => simp [joinWith] at ih ⊢; exact ih
        | cons q qs => simp [joinWith] at ih ⊢; exact ih

/-! ### `joinWith` -/

/-- What holds of the pieces and the separator, and is kept by appending, holds of the joined string. -/
theorem joinWith_pred {P : Bytes → Prop} (hnil : P []) (happ : ∀ a b, P a → P b → P (a ++ b))
    {sep : Bytes} (hsep : P sep) : ∀ {items : List Bytes}, (∀ it ∈ items, P it) → P (joinWith sep items)
  | [], _ => hnil
  | [p], h => h p (List.mem_singleton.mpr rfl)
  | p :: _ :: _, h =>
    happ _ _ (happ _ _ (h p List.mem_cons_self) hsep)
      (joinWith_pred hnil happ hsep (fun it hit => h it (List.mem_cons_of_mem _ hit)))

theorem joinWith_head (sep : Bytes) (p : Bytes) (ps : List Bytes) (hp : p ≠ []) :
    (joinWith sep (p :: ps)).head? = p.head? := by
  cases p with
  | nil => exact absurd rfl hp
  | cons x xs =>
    cases ps with
    | nil => simp [joinWith]
    | cons q qs => simp [joinWith]

theorem joinWith_ne_nil (sep : Bytes) (p : Bytes) (ps : List Bytes) (hp : p ≠ []) :
    joinWith sep (p :: ps) ≠ [] := by
  cases ps with
  | nil => simpa [joinWith] using hp
  | cons q qs => simp [joinWith, hp]

/-- Sum of (piece length + 1): one more than the length of the pieces joined by a one-byte separator, and a
    bound on the work of a pass that spends one step per piece and per byte. -/
def wsum (l : List Bytes) : Nat := (l.map (fun p => p.length + 1)).sum

theorem wsum_cons (p : Bytes) (l : List Bytes) : wsum (p :: l) = p.length + 1 + wsum l := by
  simp [wsum]

theorem joinWith_length (c : UInt8) (l : List Bytes) (h : l ≠ []) :
    (joinWith [c] l).length + 1 = wsum l := by
  induction l with
  | nil => exact absurd rfl h
  | cons p ps ih =>
    cases ps with
    | nil => simp [joinWith, wsum]
    | cons q qs =>
      have := ih (by simp)
      rw [wsum_cons]
      simp only [joinWith, List.length_append, List.length_cons, List.length_nil]
      omega

theorem append_eq_append_cons {p r b : Bytes} {c : Byte} (hc : c ∉ p) :
    ∀ {a}, p ++ r = a ++ c :: b → ∃ a', a = p ++ a' ∧ r = a' ++ c :: b := by
  induction p with
  | nil => exact fun h => ⟨_, rfl, h⟩
  | cons y p ih =>
    intro a h
    cases a with
    | nil => exact absurd (List.cons.inj h).1 (fun e => hc (e ▸ List.mem_cons_self))
    | cons x a =>
      obtain ⟨rfl, h'⟩ := List.cons.inj h
      obtain ⟨a', rfl, hr⟩ := ih (fun hm => hc (List.mem_cons_of_mem _ hm)) h'
      exact ⟨a', rfl, hr⟩

end Girc.Proofs.BytesLemmas
