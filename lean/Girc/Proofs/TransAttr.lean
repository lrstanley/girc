import Lean.Meta.Tactic.Simp.RegisterCommand
/-- Simp set for the plumbing of translated code: `Except` binds of values that are known, short-circuit connectives on
    known operands, `if` on a decided condition. -/
register_simp_attr gosem
