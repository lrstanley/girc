import Girc.Proofs.LifeTerm
/-
  C07: the inductive invariant `Good` of the lifecycle model and its preservation by every action (`good_step`:
  all interleavings of the four loops, main, user goroutines and the peer); from it, for every reachable state,
  the result classification, the lifecycle events and "a connection ends only for a reason"
  (`result_classification`, `no_spontaneous_end`). Each clause of `Good` reads only the fields it names, so the
  proof for a step carries the untouched clauses over (`carry`) and argues about the rest.
-/
namespace Girc.Proofs.Life
open Girc Girc.Model.Life

theorem firstError_append (a b : List Ev) :
    firstError (a ++ b) = match firstError a with | some x => some x | none => firstError b := by
  induction a with
  | nil => rfl
  | cons e rest ih =>
    simp only [List.cons_append, firstError]
    split
    · rfl
    · exact ih

theorem firstError_append_none (a b : List Ev) (h : firstError a = none) :
    firstError (a ++ b) = firstError b := by
  rw [firstError_append, h]

theorem firstError_append_some (a b : List Ev) (x : Err) (h : firstError a = some x) :
    firstError (a ++ b) = some x := by
  rw [firstError_append, h]

theorem firstError_kind (l : List Ev) (e : Err) (h : firstError l = some e) : ∃ t, e = .errEvent t := by
  induction l with
  | nil => cases h
  | cons x rest ih =>
    simp only [firstError] at h
    split at h
    · cases h; exact ⟨_, rfl⟩
    · exact ih h

theorem firstError_ne_io (l : List Ev) : firstError l ≠ some .io := by
  intro h
  obtain ⟨t, ht⟩ := firstError_kind l _ h
  cases ht

theorem firstError_split (l : List Ev) (t : Bytes) (h : firstError l = some (.errEvent t)) :
    ∃ pre e post, l = pre ++ [e] ++ post ∧ e.isError = true ∧ e.text = t ∧ ∀ x ∈ pre, x.isError = false := by
  induction l with
  | nil => cases h
  | cons x rest ih =>
    simp only [firstError] at h
    split at h
    · rename_i hx
      cases h
      exact ⟨[], x, rest, rfl, hx, rfl, nofun⟩
    · rename_i hx
      obtain ⟨pre, e, post, h1, h2, h3, h4⟩ := ih h
      refine ⟨x :: pre, e, post, by rw [h1]; rfl, h2, h3, ?_⟩
      intro y hy
      rcases List.mem_cons.mp hy with rfl | hy
      · simpa using hx
      · exact h4 y hy

theorem firstError_snoc (l : List Ev) (e : Ev) (h : firstError l = none) :
    firstError (l ++ [e]) = if e.isError then some (.errEvent e.text) else none := by
  rw [firstError_append_none _ _ h]; rfl

/-! ### `errOnce`: the group keeps its first error -/

theorem fail_groupErr {ge : Option Err} {e x : Err}
    (h : (match ge with | some y => some y | none => some e) = some x) : ge = some x ∨ e = x := by
  cases ge with
  | none => exact .inr (Option.some.inj h)
  | some y => exact .inl h

theorem fail_isSome (ge : Option Err) (e : Err) :
    (match ge with | some y => some y | none => some e).isSome = true := by
  cases ge <;> rfl

/-- What has been emitted, as a function of where main is. -/
def emitsOf : MainPc → List LifeEv
  | .waiting => []
  | .closedEv => []
  | .teardown r => if r = none then [.closed] else []
  | .discEv r => if r = none then [.closed] else []
  | .finish r => if r = none then [.closed, .disconnected] else [.disconnected]
  | .returned r => if r = none then [.closed, .disconnected] else [.disconnected]

/-- main has executed `conn.Close()`. -/
def afterTd : MainPc → Bool
  | .discEv _ | .finish _ | .returned _ => true
  | _ => false

def isRet : MainPc → Bool
  | .returned _ => true
  | _ => false

/-- The result main has committed to (after `group.Wait()` returned). -/
def resOf : MainPc → Option (Option Err)
  | .waiting => none
  | .closedEv => some none
  | .teardown r | .discEv r | .finish r | .returned r => some r

/-- The classification of the committed result `r`, in terms of the three fields it depends on. -/
structure Res (reqAtWait : Bool) (delivered : List Ev) (peerClosed : Bool) (r : Option Err) : Prop where
  nil_iff : r = none ↔ reqAtWait = true
  err_first : reqAtWait = false → ∀ e, firstError delivered = some e → r = some e
  ev_first : ∀ t, r = some (.errEvent t) → firstError delivered = some (.errEvent t)
  io_peer : r = some .io → peerClosed = true ∧ firstError delivered = none

/-- A terminating cause has occurred: Close() was called or a QUIT was written, the peer closed the
    connection, an ERROR was delivered to handlers, a malformed line was read, the ping loop timed out,
    or a socket write failed. -/
def HasCause (s : LState) : Prop :=
  s.closeRequested = true ∨ s.peerClosed = true ∨ firstError s.delivered ≠ none ∨
  s.parseErrSeen = true ∨ s.pingTimedOut = true ∨ s.writeFailed = true

/-- Every clause reads only the fields it names, so a step carries over unchanged every clause whose
    fields it does not write. -/
structure Good (s : LState) : Prop where
  fifo : s.received = s.delivered ++ s.rx
  recv_sent : ∀ e ∈ s.received, e ∈ s.sent
  wire_sent : ∀ e ∈ s.wire, e ∈ s.sent
  exec_run : s.exec = .running → firstError s.delivered = none
  exec_ex : ∀ r, s.exec = .exited r → firstError s.delivered = r
  gerr_ev : ∀ t, s.groupErr = some (.errEvent t) → s.exec = .exited (some (.errEvent t))
  gerr_io : s.groupErr = some .io → s.peerClosed = true
  -- until the group is cancelled no loop has exited; with pings disabled the ping loop returns at once
  up : s.groupCancelled = false → s.exec = .running ∧ s.read = .running ∧ s.send = .running ∧
    (s.ping = .running ∨ (s.pingOff = true ∧ s.ping = .exited none))
  gc_cause : s.main = .waiting → s.groupCancelled = true → s.parentCancelled = true ∨ s.groupErr.isSome = true
  cause : s.groupCancelled = true → HasCause s
  close_par : s.closeRequested = true → s.parentCancelled = true
  par_close : s.main = .waiting → s.parentCancelled = true → s.closeRequested = true
  req_close : s.reqAtWait = true → s.closeRequested = true
  main_done : s.main ≠ .waiting →
    s.exec.done = true ∧ s.read.done = true ∧ s.send.done = true ∧ s.ping.done = true
  sock_eq : s.sockClosed = afterTd s.main
  conn_eq : s.connNil = isRet s.main
  emitted_eq : s.emitted = emitsOf s.main
  wait_req : s.main = .waiting → s.reqAtWait = false
  res_ok : ∀ r, resOf s.main = some r → Res s.reqAtWait s.delivered s.peerClosed r

@[simp] theorem done_running : Loop.done .running = false := rfl
@[simp] theorem done_exited (r : Option Err) : Loop.done (.exited r) = true := rfl

theorem Good.waiting {s : LState} (g : Good s)
    (h : s.exec = .running ∨ s.read = .running ∨ s.send = .running ∨ s.ping = .running) : s.main = .waiting :=
  Classical.byContradiction fun hn => by
    obtain ⟨h1, h2, h3, h4⟩ := g.main_done hn
    rcases h with h | h | h | h
    · rw [h] at h1; cases h1
    · rw [h] at h2; cases h2
    · rw [h] at h3; cases h3
    · rw [h] at h4; cases h4

theorem Good.sock_open {s : LState} (g : Good s) (h : s.main = .waiting) : s.sockClosed = false := by
  rw [g.sock_eq, h]; rfl

theorem good_begin (rx : List Ev) (tx : List OutEv) (cap : Nat) (pingOff : Bool) : Good (begin rx tx cap pingOff) := by
  constructor <;> simp [begin, firstError, afterTd, isRet, emitsOf, resOf]

/-- After `cases` on the step equation the new state is an explicit update of `s`; a clause of `Good`
    that reads none of the written fields is then, up to projections, the old clause. `carry g` proves
    those and leaves the clauses the step really touches. -/
macro "carry " g:ident : tactic =>
  `(tactic| (have gg := $g; cases gg; constructor <;> (try assumption) <;> try dsimp only [LState.fail]))


/-- `Close()`, by a user goroutine or by sendLoop after a QUIT. -/
theorem Good.close {s : LState} (g : Good s) :
    Good { s with parentCancelled := true, groupCancelled := true, closeRequested := true } := by
  carry g
  case up => nofun
  case gc_cause => exact fun _ _ => .inl rfl
  case cause => exact fun _ => .inl rfl
  case close_par => exact fun _ => rfl
  case par_close => exact fun _ _ => rfl
  case req_close => exact fun _ => rfl

theorem Good.gerr_io_fail {s : LState} (g : Good s) {e : Err} (he : e = .io → s.peerClosed = true)
    (h : (match s.groupErr with | some y => some y | none => some e) = some .io) : s.peerClosed = true := by
  rcases fail_groupErr h with h | h
  · exact g.gerr_io h
  · exact he h

/-- `fail e` once the cause of `e` is on record; an ERROR event only as execLoop's own result. -/
theorem Good.fail {s : LState} (g : Good s) {e : Err} (hc : HasCause s)
    (hev : ∀ t, e = .errEvent t → s.exec = .exited (some (.errEvent t))) (hio : e = .io → s.peerClosed = true) :
    Good (s.fail e) := by
  carry g
  case gerr_ev =>
    intro t ht
    rcases fail_groupErr ht with h | h
    · exact g.gerr_ev t h
    · exact hev t h
  case gerr_io => exact g.gerr_io_fail hio
  case up => nofun
  case gc_cause => exact fun _ _ => .inr (fail_isSome _ _)
  case cause => exact fun _ => hc

theorem Good.read_exit {s : LState} (g : Good s) (hr : s.read = .running) (hgc : s.groupCancelled = true)
    (r : Option Err) : Good { s with read := .exited r } := by
  have hw := g.waiting (.inr (.inl hr))
  carry g
  case up => exact fun h => absurd hgc (by rw [h]; nofun)
  case main_done => exact fun hn => absurd hw hn

theorem Good.send_exit {s : LState} (g : Good s) (hr : s.send = .running) (hgc : s.groupCancelled = true)
    (r : Option Err) : Good { s with send := .exited r } := by
  have hw := g.waiting (.inr (.inr (.inl hr)))
  carry g
  case up => exact fun h => absurd hgc (by rw [h]; nofun)
  case main_done => exact fun hn => absurd hw hn

theorem Good.ping_exit {s : LState} (g : Good s) (hr : s.ping = .running) (hgc : s.groupCancelled = true)
    (r : Option Err) : Good { s with ping := .exited r } := by
  have hw := g.waiting (.inr (.inr (.inr hr)))
  carry g
  case up => exact fun h => absurd hgc (by rw [h]; nofun)
  case main_done => exact fun hn => absurd hw hn

/-! Loop actions: main is still in `group.Wait()`. -/

theorem good_readTake {s s' : LState} (g : Good s) (h : step s .readTake = some s') : Good s' := by
  step_cases h
  rename_i e rest _ hwire _ _
  have he : e ∈ s.sent := g.wire_sent e (by rw [hwire]; exact List.mem_cons_self)
  carry g
  case fifo => rw [g.fifo, List.append_assoc]
  case recv_sent =>
    intro x hx
    rcases List.mem_append.mp hx with hx | hx
    · exact g.recv_sent x hx
    · rw [List.mem_singleton.mp hx]; exact he
  case wire_sent => exact fun x hx => g.wire_sent x (by rw [hwire]; exact List.mem_cons_of_mem _ hx)

theorem good_execTake {s s' : LState} (g : Good s) (h : step s .execTake = some s') : Good s' := by
  step_cases h
  all_goals
    rename_i e rest hex hrx he
    have hw := g.waiting (.inl hex)
    have hnone := g.exec_run hex
    have hfifo : s.received = s.delivered ++ [e] ++ rest := by rw [g.fifo, hrx, List.append_assoc]; rfl
    have hfe := firstError_snoc s.delivered e hnone
  -- an ERROR: execLoop returns it
  · carry g
    case exec_run => nofun
    case exec_ex => intro r hr; cases hr; rw [hfe, if_pos he]
    case gerr_ev =>
      intro t ht
      rcases fail_groupErr ht with h | h
      · rw [g.gerr_ev t h] at hex; cases hex
      · rw [h]
    case gerr_io => exact g.gerr_io_fail nofun
    case up => nofun
    case gc_cause => exact fun _ _ => .inr (fail_isSome _ _)
    case cause => exact fun _ => .inr (.inr (.inl (by rw [hfe, if_pos he]; nofun)))
    case main_done => exact fun hn => absurd hw hn
    case res_ok => intro r hr; rw [hw] at hr; cases hr
  · carry g
    case exec_run => intro _; rw [hfe, if_neg he]
    case exec_ex => intro r hr; rw [hex] at hr; cases hr
    case cause =>
      intro hgc
      rcases g.cause hgc with c | c | c | c
      · exact .inl c
      · exact .inr (.inl c)
      · exact absurd hnone c
      · exact .inr (.inr (.inr c))
    case res_ok => intro r hr; rw [hw] at hr; cases hr


/-- execLoop, cancelled, hands the queued events to the handlers and returns the first ERROR among them. -/
theorem Good.exec_flush {s : LState} (g : Good s) (hex : s.exec = .running) (hgc : s.groupCancelled = true) :
    Good { s with rx := [], delivered := s.delivered ++ s.rx, exec := .exited (firstError s.rx) } := by
  have hw := g.waiting (.inl hex)
  have hfe := firstError_append_none s.delivered s.rx (g.exec_run hex)
  have hfifo : s.received = s.delivered ++ s.rx ++ [] := by rw [g.fifo, List.append_nil]
  carry g
  case exec_run => nofun
  case exec_ex => intro r hr; cases hr; exact hfe
  case gerr_ev => intro t ht; rw [g.gerr_ev t ht] at hex; cases hex
  case up => exact fun h => absurd hgc (by rw [h]; nofun)
  case cause =>
    intro hgc
    rcases g.cause hgc with c | c | c | c
    · exact .inl c
    · exact .inr (.inl c)
    · exact absurd (g.exec_run hex) c
    · exact .inr (.inr (.inr c))
  case main_done => exact fun hn => absurd hw hn
  case res_ok => intro r hr; rw [hw] at hr; cases hr

theorem Good.cancelled_of_done {s : LState} (g : Good s) (h : s.exec.done = true) : s.groupCancelled = true := by
  cases hgc : s.groupCancelled with
  | true => rfl
  | false => rw [(g.up hgc).1] at h; cases h

/-- `err := group.Wait(); if execErr != nil { err = execErr }; if ctx.Err() != nil { err = nil }`:
    the result main commits to is classified as `Res` says. -/
theorem Good.wait_res {s : LState} (g : Good s) (hw : s.main = .waiting) {x : Option Err} (hx : s.exec = .exited x) :
    Res s.parentCancelled s.delivered s.peerClosed
      (if s.parentCancelled = true then none
       else match s.exec with | .exited (some e) => some e | _ => s.groupErr) := by
  have hfe := g.exec_ex x hx
  cases hp : s.parentCancelled with
  | true => exact ⟨⟨fun _ => rfl, fun _ => rfl⟩, nofun, nofun, nofun⟩
  | false =>
    rw [if_neg (by nofun), hx]
    cases x with
    | some e =>
      show Res false _ _ (some e)
      refine ⟨⟨nofun, nofun⟩, fun _ e' he' => (hfe.symm.trans he').symm ▸ rfl, fun t ht => (by cases ht; exact hfe), ?_⟩
      intro h; cases h; exact absurd hfe (firstError_ne_io _)
    | none =>
      have hge : s.groupErr.isSome = true := by
        rcases g.gc_cause hw (g.cancelled_of_done (by rw [hx]; rfl)) with h | h
        · rw [hp] at h; cases h
        · exact h
      obtain ⟨ge, hge⟩ := Option.isSome_iff_exists.mp hge
      show Res false _ _ s.groupErr
      rw [hge]
      refine ⟨⟨nofun, nofun⟩, fun _ e' he' => (by rw [hfe] at he'; cases he'), ?_, ?_⟩
      · intro t ht; cases ht; rw [g.gerr_ev t hge] at hx; cases hx
      · intro h; cases h; exact ⟨g.gerr_io hge, hfe⟩

theorem good_mainWait {s s' : LState} (g : Good s) (h : step s .mainWait = some s') : Good s' := by
  simp only [step] at h
  split at h
  case h_2 => cases h
  split at h
  case isFalse => cases h
  rename_i hw hd
  cases h
  simp only [Bool.and_eq_true] at hd
  obtain ⟨⟨⟨hde, hdr⟩, hds⟩, hdp⟩ := hd
  obtain ⟨x, hx⟩ : ∃ x, s.exec = .exited x := by
    cases hx : s.exec with
    | running => rw [hx] at hde; cases hde
    | exited x => exact ⟨x, rfl⟩
  have hres := g.wait_res hw hx
  have hgc := g.cancelled_of_done hde
  generalize (if s.parentCancelled = true then none
       else match s.exec with | .exited (some e) => some e | _ => s.groupErr) = err at hres
  carry g
  case up => nofun
  case gc_cause => cases err <;> nofun
  case cause => exact fun _ => g.cause hgc
  case par_close => cases err <;> nofun
  case req_close => exact g.par_close hw
  case main_done => exact fun _ => ⟨hde, hdr, hds, hdp⟩
  case sock_eq => rw [g.sock_open hw]; cases err <;> rfl
  case conn_eq => rw [g.conn_eq, hw]; cases err <;> rfl
  case emitted_eq => rw [g.emitted_eq, hw]; cases err <;> rfl
  case wait_req => cases err <;> nofun
  case res_ok => intro r hr; cases err <;> cases hr <;> exact hres


/-! After `group.Wait()` main walks through its remaining statements, carrying the committed result. -/

theorem Good.main_move {s : LState} (g : Good s) {pc' : MainPc} (hm : s.main ≠ .waiting) (hw' : pc' ≠ .waiting)
    (hres : resOf pc' = resOf s.main) {em : List LifeEv} {sc cn : Bool} (hem : em = emitsOf pc')
    (hsc : sc = afterTd pc') (hcn : cn = isRet pc') :
    Good { s with main := pc', emitted := em, sockClosed := sc, connNil := cn } := by
  have hd := g.main_done hm
  carry g
  case gc_cause => exact fun h => absurd h hw'
  case par_close => exact fun h => absurd h hw'
  case main_done => exact fun _ => hd
  case wait_req => exact fun h => absurd h hw'
  case res_ok => exact fun r hr => g.res_ok r (by rw [← hres]; exact hr)

theorem good_mainTeardown {s s' : LState} (g : Good s) (h : step s .mainTeardown = some s') : Good s' := by
  step_cases h
  rename_i r hm
  have hne : s.main ≠ .waiting := by rw [hm]; nofun
  have g1 : Good { s with main := .discEv r, sockClosed := true } :=
    g.main_move (pc' := .discEv r) hne nofun (by rw [hm]; rfl) (by rw [g.emitted_eq, hm]; rfl) rfl
      (by rw [g.conn_eq, hm]; rfl)
  -- `c.stop()`
  carry g1
  case up => nofun
  case gc_cause => nofun
  case cause => exact fun _ => g.cause (g.cancelled_of_done (g.main_done hne).1)
  case close_par => exact fun _ => rfl
  case par_close => nofun

theorem good_step {s s' : LState} (a : Act) (g : Good s) (h : step s a = some s') : Good s' := by
  cases a with
  | userClose =>
    step_cases h
    exact g.close
  | userQuit =>
    step_cases h
    carry g
  | userSend id =>
    step_cases h
    carry g
  | peerSend e =>
    step_cases h
    carry g
    case recv_sent => exact fun x hx => List.mem_append_left _ (g.recv_sent x hx)
    case wire_sent =>
      intro x hx
      rcases List.mem_append.mp hx with hx | hx
      · exact List.mem_append_left _ (g.wire_sent x hx)
      · exact List.mem_append_right _ hx
  | peerClose =>
    step_cases h
    carry g
    case gerr_io => exact fun _ => rfl
    case cause => exact fun _ => .inr (.inl rfl)
    case res_ok =>
      intro r hr
      obtain ⟨a, b, c, d⟩ := g.res_ok r hr
      exact ⟨a, b, c, fun h => ⟨rfl, (d h).2⟩⟩
  | readTake => exact good_readTake g h
  | readEOF =>
    step_cases h
    rename_i hrd _ hc
    have hpeer : s.peerClosed = true := by
      simp [g.sock_open (g.waiting (.inr (.inl hrd)))] at hc; exact hc.1
    exact (g.fail (e := .io) (.inr (.inl hpeer)) nofun fun _ => hpeer).read_exit hrd rfl _
  | readParseErr =>
    step_cases h
    rename_i e rest hrd hwire _
    have g1 : Good { s with wire := rest, parseErrSeen := true } := by
      carry g
      case wire_sent => exact fun x hx => g.wire_sent x (by rw [hwire]; exact List.mem_cons_of_mem _ hx)
      case cause => exact fun _ => .inr (.inr (.inr (.inl rfl)))
    exact (g1.fail (e := .parse) (.inr (.inr (.inr (.inl rfl)))) nofun nofun).read_exit hrd rfl _
  | readCancel =>
    step_cases h
    rename_i hrd hgc
    exact g.read_exit hrd hgc none
  | execTake => exact good_execTake g h
  | execFlush =>
    step_cases h
    -- an ERROR among the queued events: the group fails with it
    · rename_i hex hgc _ x hx
      have hfe : firstError (s.delivered ++ s.rx) = some x := (firstError_append_none _ _ (g.exec_run hex)).trans hx
      exact (g.exec_flush hex hgc).fail (e := x) (.inr (.inr (.inl (by rw [hfe]; nofun))))
        (fun t h => by rw [← h, ← hx]) (fun h => absurd (h ▸ hx) (firstError_ne_io _))
    · rename_i hex hgc _ _
      exact g.exec_flush hex hgc
  | sendTake =>
    step_cases h
    all_goals
      rename_i o rest hsd _ _
      have g1 : Good { s with tx := rest, written := s.written ++ [o] } := by carry g
    -- a QUIT: sendLoop calls `Close()` and returns
    · exact g1.close.send_exit hsd rfl none
    · exact g1
  | sendFail =>
    step_cases h
    all_goals
      rename_i o rest hsd _ hc _
      have hpeer : s.peerClosed = true := by simpa [g.sock_open (g.waiting (.inr (.inr (.inl hsd))))] using hc
      have g1 : Good { s with tx := rest, writeFailed := true } := by
        carry g
        case cause => exact fun _ => .inr (.inl hpeer)
    · exact g1.close.send_exit hsd rfl none
    · exact (g1.fail (e := .io) (.inr (.inl hpeer)) nofun fun _ => hpeer).send_exit hsd rfl _
  | sendCancel =>
    step_cases h
    rename_i hsd hgc
    exact g.send_exit hsd hgc none
  | pingTimeout =>
    step_cases h
    rename_i hpg _
    have g1 : Good { s with pingTimedOut := true } := by
      carry g
      case cause => exact fun _ => .inr (.inr (.inr (.inr (.inl rfl))))
    exact (g1.fail (e := .pingTimeout) (.inr (.inr (.inr (.inr (.inl rfl))))) nofun nofun).ping_exit hpg rfl _
  | pingCancel =>
    step_cases h
    rename_i hpg hc
    exact g.ping_exit hpg (by simp at hc; exact hc.1) none
  | pingDisabled =>
    step_cases h
    rename_i hpg hoff
    have hw := g.waiting (.inr (.inr (.inr hpg)))
    carry g
    case up => exact fun h => let ⟨a, b, c, _⟩ := g.up h; ⟨a, b, c, .inr ⟨hoff, rfl⟩⟩
    case main_done => exact fun hn => absurd hw hn
  | mainWait => exact good_mainWait g h
  | mainClosedEv =>
    step_cases h
    rename_i hm
    exact g.main_move (pc' := .teardown none) (by rw [hm]; nofun) nofun (by rw [hm]; rfl)
      (by rw [g.emitted_eq, hm]; rfl) (by rw [g.sock_eq, hm]; rfl) (by rw [g.conn_eq, hm]; rfl)
  | mainTeardown => exact good_mainTeardown g h
  | mainDisc =>
    step_cases h
    rename_i r hm
    exact g.main_move (pc' := .finish r) (by rw [hm]; nofun) nofun (by rw [hm]; rfl)
      (by rw [g.emitted_eq, hm]; cases r <;> rfl) (by rw [g.sock_eq, hm]; rfl) (by rw [g.conn_eq, hm]; rfl)
  | mainFinish =>
    step_cases h
    rename_i r hm
    exact g.main_move (pc' := .returned r) (by rw [hm]; nofun) nofun (by rw [hm]; rfl)
      (by rw [g.emitted_eq, hm]; rfl) (by rw [g.sock_eq, hm]; rfl) rfl

theorem good_of_reach {s : LState} (h : Reach s) : Good s := by
  induction h with
  | init rx tx cap pingOff => exact good_begin rx tx cap pingOff
  | step a _ hstep ih => exact good_step a ih hstep


/-- execLoop's result is the first ERROR it delivered (normal path or flush path). -/
theorem exec_result {s : LState} (h : Reach s) :
    (s.exec = .running → firstError s.delivered = none) ∧
    (∀ r, s.exec = .exited r → firstError s.delivered = r) :=
  ⟨(good_of_reach h).exec_run, (good_of_reach h).exec_ex⟩

/-- What `Connect` returns. -/
theorem result_classification {s : LState} (h : Reach s) (res : Option Err) (hr : s.main = .returned res) :
    -- nil exactly when the close was requested before `group.Wait()` returned
    (res = none ↔ s.reqAtWait = true) ∧
    (s.reqAtWait = true → s.closeRequested = true) ∧
    -- otherwise a delivered ERROR is what is reported (the first one, with its text)
    (s.reqAtWait = false → ∀ e, firstError s.delivered = some e → res = some e) ∧
    (∀ t, res = some (.errEvent t) → firstError s.delivered = some (.errEvent t)) ∧
    -- an I/O error only after the peer closed, and only if no ERROR had been handled
    (res = some .io → s.peerClosed = true ∧ firstError s.delivered = none) := by
  have g := good_of_reach h
  have hres := g.res_ok res (by rw [hr]; rfl)
  exact ⟨hres.nil_iff, g.req_close, hres.err_first, hres.ev_first, hres.io_peer⟩

/-- A requested close is never reported as a failure: if Close() was called (or a QUIT written) while
    the loops were still being waited for, Connect returns nil. -/
theorem close_returns_nil {s : LState} (h : Reach s) (hw : s.main = .waiting) (hc : s.closeRequested = true) :
    s.parentCancelled = true := by
  have _ := hw  -- not needed: `closeRequested → parentCancelled` holds in every reachable state
  exact (good_of_reach h).close_par hc

/-- The group is cancelled only after a terminating cause has occurred. -/
theorem no_spontaneous_end {s : LState} (h : Reach s) (hc : s.groupCancelled = true) :
    s.closeRequested = true ∨ s.peerClosed = true ∨ firstError s.delivered ≠ none ∨
    s.parseErrSeen = true ∨ s.pingTimedOut = true ∨ s.writeFailed = true :=
  (good_of_reach h).cause hc


/-- The state with the three cause flags erased. -/
def forgetCauses (s : LState) : LState :=
  { s with parseErrSeen := false, pingTimedOut := false, writeFailed := false }

/-- The three cause flags are history variables: a step from the state with the flags erased is enabled
    exactly when it is enabled from `s`, and leads to the same state up to the flags. So no step's
    enabledness or effect (on anything but the flags themselves) depends on them. (Both sides branch on the
    same guards, which read none of the three flags, and agree in every branch.) -/
theorem cause_flags_are_history (s : LState) (a : Act) :
    (step (forgetCauses s) a).map forgetCauses = (step s a).map forgetCauses := by
  cases a <;> dsimp only [step, forgetCauses, LState.fail] <;> repeat' (first | rfl | split)

theorem cause_flags_enabled (s : LState) (a : Act) : (step (forgetCauses s) a).isSome = (step s a).isSome := by
  have h := congrArg Option.isSome (cause_flags_are_history s a)
  simpa using h

/-! ### whole-invariant sweeps

Three tactics that invert the step and then re-establish every clause of an invariant record `g` of 21
clauses by `simp_all` / `grind` in the full context. `Good` has a different shape and its proofs above go
clause by clause (`step_cases`, `carry`); nothing in this library calls the sweeps. -/

/-- Loop actions: main is still waiting. -/
macro "loop_step" g:ident h:ident : tactic => `(tactic| (
  simp only [step] at $h:ident
  (repeat' split at $h:ident)
  all_goals first
    | (cases $h:ident; done)
    | (have hw := by
         first
           | exact Good.waiting_of_exec $g (by assumption)
           | exact Good.waiting_of_read $g (by assumption)
           | exact Good.waiting_of_send $g (by assumption)
           | exact Good.waiting_of_ping $g (by assumption)
       have hso := Good.sock_open $g hw
       cases $h:ident
       obtain ⟨g1, g2, g3, g4, g5, g6, g7, g8, g9, g10, g11, g12, g13, g14, g15, g16, g17, g18, g19, g20, g21⟩ := $g
       try (obtain ⟨t, ht⟩ := firstError_kind' _ _ (by assumption); subst ht)
       constructor <;>
         ((try simp_all [LState.fail, afterTd, isRet, emitsOf, resOf, firstError, firstError_append]) <;>
           grind))))

/-- Environment actions: main does not move. -/
macro "env_step" g:ident h:ident : tactic => `(tactic| (
  simp only [step] at $h:ident
  (repeat' split at $h:ident)
  all_goals first
    | (cases $h:ident; done)
    | (cases $h:ident
       obtain ⟨g1, g2, g3, g4, g5, g6, g7, g8, g9, g10, g11, g12, g13, g14, g15, g16, g17, g18, g19, g20, g21⟩ := $g
       refine Good.mk ?_ ?_ ?_ ?_ ?_ ?_ ?_ ?_ ?_ ?_ ?_ ?_ ?_ ?_ ?_ ?_ ?_ ?_ ?_ ?_
         (fun r hr => Res.congr (g21 r hr) rfl rfl (by simp_all))
       all_goals ((try simp_all) <;> grind))))

/-- Main actions after `group.Wait()`: the committed result is carried along. -/
macro "main_step" g:ident h:ident : tactic => `(tactic| (
  simp only [step] at $h:ident
  (repeat' split at $h:ident)
  all_goals first
    | (cases $h:ident; done)
    | (cases $h:ident
       obtain ⟨g1, g2, g3, g4, g5, g6, g7, g8, g9, g10, g11, g12, g13, g14, g15, g16, g17, g18, g19, g20, g21⟩ := $g
       refine Good.mk ?_ ?_ ?_ ?_ ?_ ?_ ?_ ?_ ?_ ?_ ?_ ?_ ?_ ?_ ?_ ?_ ?_ ?_ ?_ ?_
         (fun r hr => Res.congr (g21 r (by simp_all [resOf])) rfl rfl (by simp_all))
       all_goals ((try simp_all [afterTd, isRet, emitsOf, resOf]) <;> grind))))

end Girc.Proofs.Life
