import Girc.Proofs.TransBase
import Girc.Model.Modes
import Girc.Proofs.BytesLemmas
/-
  Translator equivalence, modes.go: the parsers of mode strings and prefixes, `*CModes` at the value level of the
  stateful code, and `*Perms` (pointer receivers: the generated functions return the new pointee).  The loop lemmas and the longer
  equalities are here; the short final steps stand under the tie theorems in Props/TieModes.lean.
-/
namespace Girc.Proofs.Trans
open Girc Girc.Model Girc.Go Girc.Gen

theorem chanMode_cond (c : UInt8) :
    ((c != 0x2C) && (decide (c < 0x41) || decide (c > 0x5A)) && (decide (c < 0x61) || decide (c > 0x7A))) =
      !chanModeByte c :=
  (Bool.not_not _).symm

theorem IsValidChannelMode_loop1_eq (s : Bytes) :
    Fn.IsValidChannelMode_loop1 s (fuelTo 0 (len s)) 0 = .ok (if s.all chanModeByte then .done () else .ret false) :=
  forAll s (Fn.IsValidChannelMode_loop1 s) chanModeByte false
    (fun fuel => by simp only [gosem, Fn.IsValidChannelMode_loop1])
    (fun fuel n x hn hx => by
      simp only [gosem, Fn.IsValidChannelMode_loop1, decide_lt_len hn, atI_ofNat hx, chanMode_cond])
    0 (Nat.zero_le _)

/-- The loop counts mode letters (`keys`) before the first `)` and symbols (`rep`) after it. -/
theorem isValidUserPrefix_loop1_eq (c : Byte) (r : Bytes) :
    Fn.isValidUserPrefix_loop1 (c :: r) (fuelTo 1 (len (c :: r))) 0 0 false 1 = .ok (.done
      (((userPrefixCount r false 0 0).1 : Int), ((userPrefixCount r false 0 0).2 : Int), r.contains 0x29)) := by
  refine forIdx_len (c :: r)
    (fun fuel (s : Nat × Nat × Bool) i => Fn.isValidUserPrefix_loop1 (c :: r) fuel s.1 s.2.1 s.2.2 i)
    (fun n s => .done (((userPrefixCount ((c :: r).drop n) s.2.2 s.1 s.2.1).1 : Int),
      ((userPrefixCount ((c :: r).drop n) s.2.2 s.1 s.2.1).2 : Int), s.2.2 || ((c :: r).drop n).contains 0x29))
    ?_ ?_ 1 (0, 0, false) (Nat.le_add_left 1 _)
  · rintro fuel ⟨k, r', p⟩
    simp only [gosem, Fn.isValidUserPrefix_loop1, List.drop_length, userPrefixCount, List.contains_nil, Bool.or_false]
  · rintro fuel n ⟨k, r', p⟩ x hn hx ih
    simp only [gosem, Fn.isValidUserPrefix_loop1, decide_lt_len hn, atI_ofNat hx, drop_cons_of_getElem? hx,
      userPrefixCount, List.contains_cons]
    by_cases h29 : x = 0x29
    · simp only [h29, beq_self_eq_true, if_true, Bool.true_or, Bool.or_true]
      exact ih (k, r', true)
    · simp only [beq_false_of_ne h29, beq_false_of_ne (Ne.symm h29), h29, Bool.false_eq_true, if_false, Bool.false_or]
      cases p
      · simp only [Bool.false_eq_true, if_false, ← Int.natCast_succ]
        exact ih (k + 1, r', false)
      · simp only [if_true, ← Int.natCast_succ]
        exact ih (k, r' + 1, true)

theorem isValidUserPrefix_eq (raw : Bytes) : Fn.isValidUserPrefix raw = .ok (isValidUserPrefix raw) := by
  unfold Fn.isValidUserPrefix isValidUserPrefix
  cases raw with
  | nil => rfl
  | cons c rest =>
    have h1 : decide (len (c :: rest) < 1) = false := decide_eq_false (by simp only [len, List.length_cons]; omega)
    simp only [gosem, h1, atI_cons_zero, isValidUserPrefix_loop1_eq]
    by_cases hc : c = 0x28
    · subst hc
      simp only [gosem, Bool.beq_eq_decide_eq]
      exact congrArg Except.ok (decide_congr Int.ofNat_inj)
    · simp [hc]

theorem parsePrefixes_eq (raw : Bytes) : Fn.parsePrefixes raw = .ok (parsePrefixes raw) := by
  unfold Fn.parsePrefixes parsePrefixes
  simp only [gosem, isValidUserPrefix_eq, indexI_single]
  cases isValidUserPrefix raw
  · rfl
  · simp only [Bool.not_true, Bool.false_eq_true, if_false]
    unfold indexByteI
    cases hi : indexOf 0x29 raw with
    | none => rfl
    | some i =>
      have hlt := BytesLemmas.indexOf_lt hi
      cases i with
      | zero => rfl
      | succ j =>
        have h1 : decide (((j + 1 : Nat) : Int) < 1) = false := decide_eq_false (by omega)
        simp only [gosem, h1, sliceI_ofNat raw (lo := 1) 1 (j + 1) rfl rfl (Nat.le_add_left 1 j) (Nat.le_of_lt hlt),
          sliceI_toEnd raw (j + 2) (Int.natCast_succ (j + 1)).symm hlt, List.drop_take, Nat.add_sub_cancel]

theorem prefixSym_cond (c : UInt8) :
    (strOfByte c == Fn.OwnerPrefix || strOfByte c == Fn.AdminPrefix || strOfByte c == Fn.HalfOperatorPrefix ||
      strOfByte c == Fn.OperatorPrefix || strOfByte c == Fn.VoicePrefix) = isPrefixSym c := by
  simp only [Fn.OwnerPrefix, Fn.AdminPrefix, Fn.HalfOperatorPrefix, Fn.OperatorPrefix, Fn.VoicePrefix, isPrefixSym,
    strOfByte_beq c 0x7E (by decide), strOfByte_beq c 0x26 (by decide), strOfByte_beq c 0x25 (by decide),
    strOfByte_beq c 0x40 (by decide), strOfByte_beq c 0x2B (by decide)]

theorem prefixSym_str (c : UInt8) (h : isPrefixSym c = true) : strOfByte c = [c] := by
  refine strOfByte_ascii c ?_
  simp only [isPrefixSym, Bool.or_eq_true, decide_eq_true_eq] at h
  rcases h with (((h | h) | h) | h) | h <;> subst h <;> decide

theorem parseUserPrefix_loop1_eq (raw : Bytes) :
    Fn.parseUserPrefix_loop1 raw (fuelTo 0 (len raw)) [] 0 = .ok
      (if (raw.dropWhile isPrefixSym).isEmpty then .done (raw.takeWhile isPrefixSym)
       else .ret (raw.takeWhile isPrefixSym, raw.dropWhile isPrefixSym, true)) := by
  refine forIdx_len raw (Fn.parseUserPrefix_loop1 raw)
    (fun n modes => if ((raw.drop n).dropWhile isPrefixSym).isEmpty then .done (modes ++ (raw.drop n).takeWhile isPrefixSym)
      else .ret (modes ++ (raw.drop n).takeWhile isPrefixSym, (raw.drop n).dropWhile isPrefixSym, true))
    ?_ ?_ 0 [] (Nat.zero_le _)
  · intro fuel modes
    simp only [gosem, Fn.parseUserPrefix_loop1, List.drop_length, List.dropWhile_nil, List.takeWhile_nil,
      List.isEmpty_nil, List.append_nil]
  · intro fuel n modes x hn hx ih
    simp only [gosem, Fn.parseUserPrefix_loop1, decide_lt_len hn, atI_ofNat hx, prefixSym_cond,
      drop_cons_of_getElem? hx, List.dropWhile_cons, List.takeWhile_cons]
    cases hs : isPrefixSym x
    · simp only [gosem, sliceI_toEnd raw n rfl (Nat.le_of_lt hn), drop_cons_of_getElem? hx,
        List.isEmpty_cons, List.append_nil]
    · simp only [if_true, ih, prefixSym_str x hs, List.append_assoc, List.singleton_append]

theorem indexByteI_gt (s : Bytes) (b : Byte) : decide (indexByteI s b > -1) = s.contains b := by
  rw [← indexOf_isSome, indexByteI]
  cases indexOf b s with
  | none => rfl
  | some n => exact decide_eq_true (by omega : (n : Int) > -1)

theorem CModes_hasArg_eq (c : CModes) (set : Bool) (mode : Byte) :
    Fn.CModes_hasArg (some c) set mode = .ok (c.hasArg set mode) := by
  unfold Fn.CModes_hasArg CModes.hasArg
  have c0 : decide (len c.raw < 1) = decide (c.raw.length < 1) := decide_congr Int.ofNat_lt
  simp only [gosem, indexByteI_gt, c0]
  by_cases h0 : c.raw.length < 1
  · simp only [h0, decide_true, if_true]
  · simp only [h0, decide_false, Bool.false_eq_true, if_false]
    cases c.listArgs.contains mode <;> cases c.argsM.contains mode <;> cases c.setArgs.contains mode <;>
      cases c.prefixes.contains mode <;> cases set <;> rfl

/-- Mode names are ASCII (every mode letter a server can put into CHANMODES / PREFIX is): then Go's `string(name)`
    is the one-byte string `[name]` (`get_ascii` below and the `_ascii` ties in Props/TieModes.lean; the equivalences themselves need no such hypothesis,
    the models spell a letter with `Go.strOfByte` as the code does). -/
def asciiModes (ms : List CMode) : Prop := ∀ m ∈ ms, m.name < 0x80

theorem CModes_HasMode_loop1_eq (c : CModes) (mode : Bytes) :
    Fn.CModes_HasMode_loop1 (some c) mode (fuelTo 0 (len c.modes)) 0 = .ok
      (if c.modes.any (fun m => strOfByte m.name == mode) then .ret true else .done ()) :=
  forAny c.modes (Fn.CModes_HasMode_loop1 (some c) mode) (fun m => strOfByte m.name == mode) true
    (fun fuel => by
      simp only [gosem, Fn.CModes_HasMode_loop1])
    (fun fuel n x hn hx => by
      simp only [gosem, Fn.CModes_HasMode_loop1, decide_lt_len hn, atA_ofNat hx])
    0 (Nat.zero_le _)

theorem any_strOfByte (ms : List CMode) (mode : Bytes) (h : asciiModes ms) :
    ms.any (fun m => strOfByte m.name == mode) = ms.any (fun m => [m.name] = mode) := by
  induction ms with
  | nil => rfl
  | cons m ms ih =>
    have hm := h m (by simp)
    have ih' := ih (fun x hx => h x (by simp [hx]))
    simp only [List.any_cons, strOfByte_ascii m.name hm, ih']
    congr 1
    by_cases e : [m.name] = mode <;> simp [e]

theorem CModes_HasMode_nil (mode : Bytes) : Fn.CModes_HasMode none mode = .error .nilDeref := rfl

theorem CModes_Get_loop1_eq (c : CModes) (mode : Bytes) :
    Fn.CModes_Get_loop1 (some c) mode (fuelTo 0 (len c.modes)) 0 = .ok
      (match c.modes.find? (fun m => strOfByte m.name == mode) with
       | some m => .ret (if m.args == [] then ([], false) else (m.args, true))
       | none => .done ()) :=
  forIdx_len c.modes (fun fuel (_ : Unit) i => Fn.CModes_Get_loop1 (some c) mode fuel i)
    (fun n _ => match (c.modes.drop n).find? (fun m => strOfByte m.name == mode) with
      | some m => .ret (if m.args == [] then ([], false) else (m.args, true))
      | none => .done ())
    (fun fuel _ => by
      simp only [gosem, Fn.CModes_Get_loop1, List.drop_length, List.find?_nil])
    (fun fuel n _ x hn hx ih => by
      simp only [gosem, Fn.CModes_Get_loop1, decide_lt_len hn, atA_ofNat hx, drop_cons_of_getElem? hx, List.find?_cons]
      cases hs : strOfByte x.name == mode
      · simp only [Bool.false_eq_true, if_false]
        exact ih ()
      · simp only [if_true]
        cases x.args == ([] : Bytes) <;> simp only [if_true, if_false, Bool.false_eq_true])
    0 () (Nat.zero_le _)

theorem find_strOfByte (ms : List CMode) (mode : Bytes) (h : asciiModes ms) :
    ms.find? (fun m => strOfByte m.name == mode) = ms.find? (fun m => [m.name] = mode) := by
  induction ms with
  | nil => rfl
  | cons m ms ih =>
    have hm := h m (by simp)
    have ih' := ih (fun x hx => h x (by simp [hx]))
    simp only [List.find?_cons, strOfByte_ascii m.name hm, ih']
    cases hb : ([m.name] == mode) with
    | true => have e : [m.name] = mode := by simpa using hb
              simp [e]
    | false => have e : ¬ [m.name] = mode := by simpa using hb
               simp [e]

theorem get_ascii (c : CModes) (mode : Bytes) (h : asciiModes c.modes) :
    c.get mode = (match c.modes.find? (fun m => [m.name] = mode) with
      | some m => if m.args.isEmpty then none else some m.args
      | none => none) := by
  unfold CModes.get
  rw [find_strOfByte c.modes mode h]
  cases (c.modes.find? (fun m => [m.name] = mode)) <;> rfl

theorem CModes_Get_nil (mode : Bytes) : Fn.CModes_Get none mode = .error .nilDeref := rfl

theorem CModes_String_loop1_eq (c : CModes) (out : Bytes) :
    Fn.CModes_String_loop1 (some c) (fuelTo 0 (len c.modes)) out [] 0 = .ok (.done
      (out ++ c.modes.flatMap (fun m => strOfByte m.name),
       c.modes.flatMap (fun m => if m.args.length > 0 then SP :: m.args else []))) := by
  have := forIdx_len c.modes (fun fuel (s : Bytes × Bytes) i => Fn.CModes_String_loop1 (some c) fuel s.1 s.2 i)
    (fun n s => .done (s.1 ++ (c.modes.drop n).flatMap (fun m => strOfByte m.name),
      s.2 ++ (c.modes.drop n).flatMap (fun m => if m.args.length > 0 then SP :: m.args else [])))
    (fun fuel s => by
      simp only [gosem, Fn.CModes_String_loop1, List.drop_length, List.flatMap_nil, List.append_nil])
    (fun fuel n s x hn hx ih => by
      simp only [gosem, Fn.CModes_String_loop1, decide_lt_len hn, atA_ofNat hx, drop_cons_of_getElem? hx,
        List.flatMap_cons, show decide (len x.args > 0) = decide (x.args.length > 0) from decide_congr Int.ofNat_lt]
      by_cases ha : x.args.length > 0
      · simp only [ha, decide_true, if_true]
        exact (ih (_, _)).trans (by simp only [List.append_assoc, List.singleton_append, SP])
      · simp only [ha, decide_false, Bool.false_eq_true, if_false]
        exact (ih (_, _)).trans (by simp only [List.append_assoc, List.nil_append]))
    0 (out, []) (Nat.zero_le _)
  simp only [List.drop_zero, List.nil_append] at this
  exact this

theorem flatMap_strOfByte (ms : List CMode) (h : asciiModes ms) :
    ms.flatMap (fun m => strOfByte m.name) = ms.map (·.name) := by
  induction ms with
  | nil => rfl
  | cons m ms ih =>
    have hm := h m (by simp)
    have ih' := ih (fun x hx => h x (by simp [hx]))
    simp [List.flatMap_cons, strOfByte_ascii m.name hm, ih']

theorem CModes_String_nil : Fn.CModes_String none = .error .nilDeref := rfl

/-- What `Parse` returns of its loop's result; the sign and the argument count the loop also carries are scratch. -/
def parseOut : LoopR ((List CMode) × Bool × Int) (List CMode) → List CMode
  | .done (o, _, _) => o
  | .ret o => o

theorem CModes_Parse_loop1_eq (c : CModes) (flags : Bytes) (args : List Bytes) :
    (Fn.CModes_Parse_loop1 (some c) flags args (fuelTo 0 (len flags)) [] true 0 0).map parseOut =
      .ok (c.parse flags args) := by
  have := forIdx_len flags
    (fun fuel (s : List CMode × Bool × Nat) i =>
      (Fn.CModes_Parse_loop1 (some c) flags args fuel s.1 s.2.1 s.2.2 i).map parseOut)
    (fun n s => s.1 ++ c.parseAux (flags.drop n) s.2.1 (args.drop s.2.2))
    (fun fuel s => by
      simp only [gosem, Fn.CModes_Parse_loop1, Except.map, parseOut, List.drop_length, CModes.parseAux,
        List.append_nil])
    (fun fuel n s f hn hx ih => by
      obtain ⟨out, add, k⟩ := s
      simp only [gosem, Fn.CModes_Parse_loop1, decide_lt_len hn, atI_ofNat hx, CModes_hasArg_eq,
        drop_cons_of_getElem? hx, CModes.parseAux]
      by_cases h1 : f = 0x2B
      · simp only [h1, beq_self_eq_true, if_true]
        exact ih (out, true, k)
      · simp only [beq_false_of_ne h1, h1, Bool.false_eq_true, if_false]
        by_cases h2 : f = 0x2D
        · simp only [h2, beq_self_eq_true, if_true]
          exact ih (out, false, k)
        · simp only [beq_false_of_ne h2, h2, Bool.false_eq_true, if_false]
          obtain ⟨ha, isS⟩ := c.hasArg add f
          simp only []
          by_cases hk : k < args.length
          · have ha' : args[k]? = some args[k] := List.getElem?_eq_getElem hk
            cases ha
            · simp only [Bool.false_and, Bool.false_eq_true, if_false]
              exact (ih (_, add, k)).trans (by rw [List.append_assoc]; rfl)
            · simp only [decide_lt_len hk, Bool.and_self, if_true, atL_ofNat ha', ← Int.natCast_succ,
                drop_cons_of_getElem? ha']
              exact (ih (_, add, k + 1)).trans (by rw [List.append_assoc]; rfl)
          · have hnil : args.drop k = [] := List.drop_of_length_le (Nat.le_of_not_lt hk)
            simp only [decide_lt_len_of_le (Nat.le_of_not_lt hk), Bool.and_false,
              Bool.false_eq_true, if_false, hnil]
            exact (ih (_, add, k)).trans (by simp only [List.append_assoc, List.singleton_append, hnil]))
    0 ([], true, 0) (Nat.zero_le _)
  simp only [List.drop_zero, List.nil_append] at this
  exact this

/-- Position of the first stored mode called `nm` (the inner loop of `Apply`). -/
def firstIdx (nm : Byte) : List CMode → Option Nat
  | [] => none
  | x :: xs => if x.name == nm then some 0 else (firstIdx nm xs).map (· + 1)

/-- One change of `Apply`, exactly as the Go code performs it: only the FIRST entry of that name is replaced / removed. -/
def applyOneGo (ms : List CMode) (m : CMode) : List CMode :=
  if !m.setting then ms
  else match firstIdx m.name ms with
    | none => if m.add then ms ++ [m] else ms
    | some j => if m.add then ms.set j m else ms.take j ++ ms.drop (j + 1)

theorem firstIdx_eq_findIdx? (nm : Byte) : ∀ ms : List CMode, firstIdx nm ms = ms.findIdx? (·.name == nm)
  | [] => rfl
  | x :: xs => by rw [firstIdx, List.findIdx?_cons, firstIdx_eq_findIdx? nm xs]

theorem firstIdx_lt (nm : Byte) (ms : List CMode) (d : Nat) (h : firstIdx nm ms = some d) : d < ms.length := by
  rw [firstIdx_eq_findIdx?] at h
  exact (List.findIdx?_eq_some_iff_getElem.mp h).1

theorem firstIdx_none (nm : Byte) (ms : List CMode) (h : firstIdx nm ms = none) : ∀ y ∈ ms, y.name ≠ nm := by
  rw [firstIdx_eq_findIdx?] at h
  exact fun y hy => ne_of_beq_false (List.findIdx?_eq_none_iff.mp h y hy)

theorem CModes_Apply_loop2_eq (modes newModes : List CMode) (i : Int) (m : CMode) (hm : atA modes i = .ok m) (j : Int) :
    Fn.CModes_Apply_loop2 modes newModes i (fuelTo 0 (len newModes)) j 0 = .ok (.done
      (match firstIdx m.name newModes with
       | some d => (d : Int)
       | none => j)) := by
  rw [firstIdx_eq_findIdx?]
  exact forFirst newModes (Fn.CModes_Apply_loop2 modes newModes i) (·.name == m.name)
    (fun fuel j => by
      simp only [gosem, Fn.CModes_Apply_loop2])
    (fun fuel n j x hn hx => by
      simp only [gosem, Fn.CModes_Apply_loop2, decide_lt_len hn, atA_ofNat hx, hm])
    j

theorem CModes_Apply_loop1_eq (modes nm : List CMode) :
    Fn.CModes_Apply_loop1 modes (fuelTo 0 (len modes)) nm 0 = .ok (.done (modes.foldl applyOneGo nm)) :=
  forFold modes (Fn.CModes_Apply_loop1 modes) applyOneGo
    (fun fuel nm => by
      simp only [gosem, Fn.CModes_Apply_loop1])
    (fun fuel n nm m hn hx => by
      have hat := atA_ofNat hx
      simp only [gosem, Fn.CModes_Apply_loop1, decide_lt_len hn, hat, CModes_Apply_loop2_eq modes nm n m hat,
        applyOneGo]
      cases m.setting
      · rfl
      · simp only [Bool.not_true, Bool.false_eq_true, if_false]
        cases hj : firstIdx m.name nm with
        | none => cases m.add <;> rfl
        | some d =>
          have hdl := firstIdx_lt m.name nm d hj
          have hne : ((d : Int) == -1) = false := beq_false_of_ne (by omega)
          cases m.add
          · simp only [gosem, bne, hne, Bool.false_and, sliceA_fromZero nm d rfl (Nat.le_of_lt hdl),
              sliceA_toEnd nm (d + 1) (Int.natCast_succ d).symm hdl]
          · simp only [gosem, hne, Bool.and_false, setA_ofNat m hdl])
    0 nm (Nat.zero_le _)

/-- Stored modes are unique by name (true of every state built from `NewCModes` by `Apply`, see `namesNodup_applyOne`). -/
def namesNodup : List CMode → Prop
  | [] => True
  | x :: xs => (∀ y ∈ xs, y.name ≠ x.name) ∧ namesNodup xs

theorem filter_none (nm : Byte) (ms : List CMode) (h : ∀ y ∈ ms, y.name ≠ nm) : ms.filter (·.name != nm) = ms := by
  apply List.filter_eq_self.mpr
  intro y hy
  simpa [bne_iff_ne] using h y hy

theorem map_none (m : CMode) (ms : List CMode) (h : ∀ y ∈ ms, y.name ≠ m.name) :
    ms.map (fun x => if x.name = m.name then m else x) = ms := by
  induction ms with
  | nil => rfl
  | cons x xs ih =>
    have hx := h x (by simp)
    simp only [List.map_cons, hx, if_false]
    rw [ih (fun y hy => h y (by simp [hy]))]

theorem any_none (nm : Byte) (ms : List CMode) (h : ∀ y ∈ ms, y.name ≠ nm) : ms.any (·.name = nm) = false := by
  induction ms with
  | nil => rfl
  | cons x xs ih =>
    have hx := h x (by simp)
    simp only [List.any_cons, hx, decide_false, Bool.false_or]
    exact ih (fun y hy => h y (by simp [hy]))

theorem applyOneGo_eq : ∀ (ms : List CMode) (m : CMode), namesNodup ms → applyOneGo ms m = applyOne ms m := by
  intro ms m hnd
  unfold applyOneGo applyOne
  cases hs : m.setting with
  | false => simp
  | true =>
    simp only [Bool.not_true, Bool.false_eq_true, if_false]
    induction ms with
    | nil => simp [firstIdx]
    | cons x xs ih =>
      obtain ⟨hx, hxs⟩ := hnd
      unfold firstIdx
      by_cases hxe : x.name = m.name
      · have hb : (x.name == m.name) = true := by simp [hxe]
        have hrest : ∀ y ∈ xs, y.name ≠ m.name := fun y hy => hxe ▸ hx y hy
        simp only [hb, if_true]
        cases ha : m.add with
        | true =>
          simp [hxe, map_none m xs hrest]
        | false =>
          simp [hxe, filter_none m.name xs hrest]
      · have hb : (x.name == m.name) = false := by simp [hxe]
        have ih' := ih hxs
        simp only [hb, Bool.false_eq_true, if_false]
        cases hr : firstIdx m.name xs with
        | none =>
          simp only [hr] at ih'
          have hrest := firstIdx_none m.name xs hr
          cases ha : m.add with
          | true =>
            simp [hxe, any_none m.name xs hrest]
          | false =>
            simp [hxe, filter_none m.name xs hrest]
        | some r =>
          simp only [hr] at ih'
          cases ha : m.add with
          | true =>
            simp only [ha, if_true] at ih'
            simp only [Option.map_some, List.set_cons_succ, if_true, List.any_cons, hxe, decide_false, Bool.false_or,
              List.map_cons, if_false]
            by_cases hany : xs.any (·.name = m.name) = true
            · simp only [hany, if_true] at ih' ⊢
              rw [ih']
            · have hany' : xs.any (·.name = m.name) = false := by simpa using hany
              simp only [hany', Bool.false_eq_true, if_false] at ih' ⊢
              rw [ih']; simp
          | false =>
            simp only [ha, Bool.false_eq_true, if_false] at ih'
            have hbx : (x.name != m.name) = true := by simp [bne_iff_ne, hxe]
            simp only [Option.map_some, Bool.false_eq_true, if_false, List.take_succ_cons, List.drop_succ_cons,
              List.cons_append, List.filter_cons, hbx, if_true]
            rw [ih']

theorem mem_applyOne_name (ms : List CMode) (m : CMode) (y : CMode) (hy : y ∈ applyOne ms m) :
    y = m ∨ y ∈ ms := by
  unfold applyOne at hy
  cases hs : m.setting with
  | false => simp [hs] at hy; exact Or.inr hy
  | true =>
    simp only [hs, Bool.not_true, Bool.false_eq_true, if_false] at hy
    cases ha : m.add with
    | true =>
      simp only [ha, if_true] at hy
      by_cases hany : ms.any (·.name = m.name) = true
      · simp only [hany, if_true] at hy
        obtain ⟨x, hx, hxy⟩ := List.mem_map.mp hy
        by_cases hxe : x.name = m.name
        · simp [hxe] at hxy; exact Or.inl hxy.symm
        · simp [hxe] at hxy; exact Or.inr (hxy ▸ hx)
      · simp only [hany, Bool.false_eq_true, if_false] at hy
        rcases List.mem_append.mp hy with h | h
        · exact Or.inr h
        · simp at h; exact Or.inl h
    | false =>
      simp only [ha, Bool.false_eq_true, if_false] at hy
      exact Or.inr (List.mem_filter.mp hy).1

theorem namesNodup_iff : ∀ ms : List CMode, namesNodup ms ↔ (ms.map (·.name)).Nodup
  | [] => by simp [namesNodup]
  | x :: xs => by
    rw [namesNodup, namesNodup_iff xs, List.map_cons, List.nodup_cons, List.mem_map]
    exact and_congr_left' ⟨fun h ⟨y, hy, e⟩ => h y hy e, fun h y hy e => h ⟨y, hy, e⟩⟩

theorem namesNodup_applyOne (ms : List CMode) (m : CMode) (h : namesNodup ms) : namesNodup (applyOne ms m) := by
  rw [namesNodup_iff] at h ⊢
  unfold applyOne
  cases m.setting
  · exact h
  cases m.add
  · exact h.sublist (List.filter_sublist.map _)
  by_cases hany : ms.any (·.name = m.name) = true
  · -- replacing an entry by one of the same name leaves the names as they are
    rw [if_neg (by simp), if_pos rfl, if_pos hany, List.map_map]
    refine (List.map_congr_left fun x _ => ?_) ▸ h
    by_cases e : x.name = m.name
    · simp [e]
    · simp [e]
  · rw [if_neg (by simp), if_pos rfl, if_neg hany, List.map_append]
    refine List.nodup_append.mpr ⟨h, List.nodup_cons.mpr ⟨List.not_mem_nil, List.nodup_nil⟩, fun a ha b hb e => hany ?_⟩
    obtain ⟨y, hy, rfl⟩ := List.mem_map.mp ha
    exact List.any_eq_true.mpr ⟨y, hy, by simpa [e] using hb⟩

theorem foldl_applyOneGo_eq : ∀ (changes ms : List CMode), namesNodup ms →
    changes.foldl applyOneGo ms = changes.foldl applyOne ms ∧ namesNodup (changes.foldl applyOne ms)
  | [], _, h => ⟨rfl, h⟩
  | m :: rest, ms, h => by
    simp only [List.foldl_cons]
    rw [applyOneGo_eq ms m h]
    exact foldl_applyOneGo_eq rest (applyOne ms m) (namesNodup_applyOne ms m h)

theorem set_take_replicate {α : Type} (z : α) : ∀ (l : List α) (n : Nat) (m : α), l[n]? = some m →
    (l.take n ++ List.replicate (l.length - n) z).set n m = l.take (n + 1) ++ List.replicate (l.length - (n + 1)) z
  | [], _, _, h => by simp at h
  | x :: xs, 0, m, h => by
    simp at h; subst h
    simp [List.replicate_succ]
  | x :: xs, n + 1, m, h => by
    have ih := set_take_replicate z xs n m (by simpa using h)
    simp only [List.take_succ_cons, List.cons_append, List.length_cons, Nat.add_sub_add_right, List.set_cons_succ]
    rw [ih]

abbrev zeroCMode : CMode := { add := false, name := 0, setting := false, args := [] }

/-- After `n` passes the first `n` stored modes have been copied into the fresh slice. -/
theorem CModes_Copy_loop1_eq (c : CModes) :
    Fn.CModes_Copy_loop1 (some c) (fuelTo 0 (len c.modes))
      { c with modes := List.replicate c.modes.length zeroCMode } 0 = .ok (.done c) := by
  have := forIdx_len c.modes
    (fun fuel (_ : Unit) i => Fn.CModes_Copy_loop1 (some c) fuel
      { c with modes := c.modes.take i.toNat ++ List.replicate (c.modes.length - i.toNat) zeroCMode } i)
    (fun _ _ => .done c)
    (fun fuel _ => by
      simp only [gosem, Fn.CModes_Copy_loop1, Int.toNat_natCast, List.take_length, Nat.sub_self, List.replicate_zero,
        List.append_nil])
    (fun fuel n _ m hn hx ih => by
      have hset := setA_ofNat (s := c.modes.take n ++ List.replicate (c.modes.length - n) zeroCMode) (n := n) m
        (by rw [List.length_append, List.length_take, List.length_replicate]; omega)
      simp only [gosem, Fn.CModes_Copy_loop1, decide_lt_len hn, atA_ofNat hx, Int.toNat_natCast, hset,
        set_take_replicate zeroCMode c.modes n m hx]
      have := ih ()
      rwa [← Int.natCast_succ, Int.toNat_natCast] at this)
    0 () (Nat.zero_le _)
  simpa only [Int.natCast_zero, Int.toNat_zero, List.take_zero, List.nil_append, Nat.sub_zero] using this

theorem CModes_Copy_nil : Fn.CModes_Copy none = .error .nilDeref := rfl

theorem NewCModes_loop1_eq : ∀ (fuel : Nat) (l : List Bytes), l.length ≤ 4 → 4 - l.length < fuel →
    Fn.NewCModes_loop1 fuel l (l.length : Int) = .ok (.done (l ++ List.replicate (4 - l.length) []))
  | 0, _, _, h => by omega
  | fuel + 1, l, hl, hf => by
    unfold Fn.NewCModes_loop1
    by_cases hlt : l.length < 4
    · have hs : (l ++ [([] : Bytes)]).length = l.length + 1 := List.length_append
      have e1 : (l.length : Int) + 1 = ((l ++ [([] : Bytes)]).length : Int) := by rw [hs]; exact (Int.natCast_succ _).symm
      simp only [gosem, show decide ((l.length : Int) < 4) = true from decide_eq_true (by omega), e1]
      rw [NewCModes_loop1_eq fuel (l ++ [[]]) (hs ▸ hlt) (by omega), hs, List.append_assoc, List.singleton_append,
        ← List.replicate_succ, show 4 - (l.length + 1) + 1 = 4 - l.length by omega]
    · simp only [gosem, show decide ((l.length : Int) < 4) = false from decide_eq_false (by omega),
        show 4 - l.length = 0 by omega,
        List.replicate_zero, List.append_nil]

theorem atL_0 (a : Bytes) (l : List Bytes) : atL (a :: l) 0 = .ok a := atL_ofNat (n := 0) rfl
theorem atL_1 (a b : Bytes) (l : List Bytes) : atL (a :: b :: l) 1 = .ok b := atL_ofNat (n := 1) rfl
theorem atL_2 (a b c : Bytes) (l : List Bytes) : atL (a :: b :: c :: l) 2 = .ok c := atL_ofNat (n := 2) rfl
theorem atL_3 (a b c d : Bytes) (l : List Bytes) : atL (a :: b :: c :: d :: l) 3 = .ok d :=
  atL_ofNat (n := 3) rfl

/-- The tail of the generated `NewCModes` once `strings.SplitN` has produced `l` (1 ≤ len ≤ 4). -/
theorem NewCModes_of_split (s p : Bytes) (l : List Bytes) (hs : splitN s [0x2C] 4 = .ok l) (h4 : l.length ≤ 4) :
    Fn.NewCModes s p = (do
      let l' := l ++ List.replicate (4 - l.length) []
      pure ({ raw := s, listArgs := (← atL l' 0), argsM := (← atL l' 1), setArgs := (← atL l' 2),
              noArgs := (← atL l' 3), prefixes := p, modes := [] } : CModes)) := by
  unfold Fn.NewCModes
  simp only [gosem, hs]
  by_cases hne : l.length = 4
  · have : (len l != 4) = false := by simp [len, hne]
    simp [this, hne]
  · have : (((l.length : Nat) : Int) != 4) = true := by
      simp only [bne_iff_ne, ne_eq]; omega
    have hl := NewCModes_loop1_eq (fuelTo (len l) 4) l h4 (fuelTo_gt l.length 4)
    simp only [len] at hl ⊢
    simp only [gosem, this, hl]

/-- `strings.SplitN(s, ",", 4)`, padded to four pieces, is the model's `splitN4`. -/
theorem splitN_pad (s : Bytes) : (splitNOn 0x2C 4 s).length ≤ 4 ∧
    splitNOn 0x2C 4 s ++ List.replicate (4 - (splitNOn 0x2C 4 s).length) [] =
      [(splitN4 s).1, (splitN4 s).2.1, (splitN4 s).2.2.1, (splitN4 s).2.2.2] := by
  unfold splitN4
  rw [BytesLemmas.splitOnByte_step 0x2C s]
  cases h1 : indexOf 0x2C s with
  | none => simp [splitNOn, h1]
  | some i1 =>
    simp only []
    rw [BytesLemmas.splitOnByte_step 0x2C (s.drop (i1 + 1))]
    cases h2 : indexOf 0x2C (s.drop (i1 + 1)) with
    | none => simp [splitNOn, h1, h2]
    | some i2 =>
      simp only []
      rw [BytesLemmas.splitOnByte_step 0x2C ((s.drop (i1 + 1)).drop (i2 + 1))]
      cases h3 : indexOf 0x2C ((s.drop (i1 + 1)).drop (i2 + 1)) with
      | none => simp [splitNOn, h1, h2, h3, -List.drop_drop]
      | some i3 =>
        have hj := BytesLemmas.joinWith_splitOnByte 0x2C (((s.drop (i1 + 1)).drop (i2 + 1)).drop (i3 + 1))
        cases hps : splitOnByte 0x2C (((s.drop (i1 + 1)).drop (i2 + 1)).drop (i3 + 1)) with
        | nil => exact absurd hps (BytesLemmas.splitOnByte_ne_nil _ _)
        | cons q qs =>
          rw [hps] at hj
          simp [splitNOn, h1, h2, h3, hj, hps, -List.drop_drop]

theorem Perms_reset_eq (p : Perms) : Fn.Perms_reset (some p) = .ok (some {}) := by
  cases p; rfl

theorem Perms_reset_nil : Fn.Perms_reset none = .error .nilDeref := rfl

/-- One prefix symbol of `Perms.set`. -/
def permsStep (p : Perms) (b : Byte) : Perms :=
  if b = 0x7E then { p with owner := true }
  else if b = 0x26 then { p with admin := true }
  else if b = 0x40 then { p with op := true }
  else if b = 0x25 then { p with halfop := true }
  else if b = 0x2B then { p with voice := true }
  else p

theorem permsFromPrefix_fold (s : Bytes) : permsFromPrefix s = s.foldl permsStep {} := rfl

theorem Perms_set_loop1_eq (s : Bytes) (p : Perms) :
    Fn.Perms_set_loop1 s (fuelTo 0 (len s)) (some p) 0 = .ok (.done (some (s.foldl permsStep p))) :=
  forIdx_len s (fun fuel p i => Fn.Perms_set_loop1 s fuel (some p) i)
    (fun n p => .done (some ((s.drop n).foldl permsStep p)))
    (fun fuel p => by
      simp only [gosem, Fn.Perms_set_loop1, List.drop_length, List.foldl_nil])
    (fun fuel n p c hn hx ih => by
      simp only [gosem, Fn.Perms_set_loop1, decide_lt_len hn, atI_ofNat hx, Fn.OwnerPrefix, Fn.AdminPrefix,
        Fn.OperatorPrefix, Fn.HalfOperatorPrefix, Fn.VoicePrefix, strOfByte_beq c 0x7E (by decide),
        strOfByte_beq c 0x26 (by decide), strOfByte_beq c 0x40 (by decide), strOfByte_beq c 0x25 (by decide),
        strOfByte_beq c 0x2B (by decide), decide_eq_true_eq, drop_cons_of_getElem? hx, List.foldl_cons]
      rw [← ih (permsStep p c), permsStep]
      simp only [apply_ite (fun q => Fn.Perms_set_loop1 s fuel (some q) ((n : Int) + 1))])
    0 p (Nat.zero_le _)

/-- `set(prefix, add)`: with `add = false` the permissions are reset first. -/
theorem Perms_set_go (p : Perms) (s : Bytes) (add : Bool) :
    Fn.Perms_set (some p) s add = .ok (some (s.foldl permsStep (if add then p else {}))) := by
  cases add <;>
    simp only [gosem, Fn.Perms_set, Perms_reset_eq, Perms_set_loop1_eq]

end Girc.Proofs.Trans
