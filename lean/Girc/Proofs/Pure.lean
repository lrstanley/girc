import Girc.Model.Ctcp
import Girc.Model.Sasl
import Girc.Model.Rate
import Girc.Model.CmdHandler
import Girc.Spec.NameSpec
import Girc.Proofs.AMapLemmas
import Girc.Proofs.ParseLemmas
/-
  The small pure functions and what the properties say of them: `rate` and the serial-trace bound (C16), the
  CTCP codec (C14), base64 and the SASL chunk loop (C09), the command handler's matcher, `Execute` and `Add`
  (C18). Namespace `PureAux` holds the lemmas about the model functions; namespace `Pure` the definitions the
  properties are stated with (`Step`, `runTrace`, `payloads`) and the results.
-/
namespace Girc.Proofs.PureAux
open Girc Girc.Model

/-! ## C16 -/

theorem second_pos : 0 < second := by decide

theorem cost_ge (n : Nat) : second ≤ cost n := by
  unfold cost second
  omega

/-- One rated call: its cost is covered by the growth of the outstanding cost (capped at the allowance), the
    credited time and the delay. -/
theorem rate_step (wd since : Int) (n : Nat) (hs : 0 ≤ since) :
    cost n ≤ min (rate wd since n).1 (8 * second) - min wd (8 * second) + since + (rate wd since n).2 ∧
    0 ≤ (rate wd since n).1 ∧ 0 ≤ (rate wd since n).2 := by
  have := cost_ge n
  have := second_pos
  simp only [rate]
  omega

/-! ## C14 -/

theorem ctcpTagByte_funeq : ctcpTagByte = Spec.isUpperOrDigit := funext (by decide +kernel)

theorem decodeCTCP_some (e : Event) (ev : CTCPEvent) (h : decodeCTCP e = some ev) :
    ev.reply = (e.command == NOTICE) ∧ ev.source = e.source := by
  unfold decodeCTCP at h
  split at h
  · obtain ⟨-, h⟩ := Option.ite_none_left_eq_some.mp h
    obtain ⟨-, h⟩ := Option.ite_none_left_eq_some.mp h
    obtain ⟨-, h⟩ := Option.ite_none_left_eq_some.mp h
    dsimp only at h
    split at h <;> split at h <;> cases h <;> exact ⟨rfl, rfl⟩
  · cases h

/-- A delimited parameter whose tag (the bytes up to the first SPACE or the closing delimiter) is not empty: the
    decoder's verdict rests on the tag's bytes alone, and the text is what follows the SPACE. -/
theorem decodeCTCP_tag (e : Event) (tgt tag rest : Bytes) (hsp : SP ∉ tag) (hne : tag ≠ [])
    (hp : e.params = [tgt, ctcpDelim :: tag ++ rest ++ [ctcpDelim]]) (hrest : rest = [] ∨ rest.head? = some SP) :
    decodeCTCP e =
      if e.command != PRIVMSG && e.command != NOTICE then none
      else if tag.all ctcpTagByte then some ⟨e.source, tag, rest.drop 1, e.command == NOTICE⟩ else none := by
  have hlen : ¬ (ctcpDelim :: tag ++ rest ++ [ctcpDelim]).length < 3 := by
    have := List.length_pos_iff.mpr hne
    simp only [List.length_append, List.length_cons]
    omega
  have hd : ((ctcpDelim :: tag ++ rest ++ [ctcpDelim]).head? != some ctcpDelim ||
      (ctcpDelim :: tag ++ rest ++ [ctcpDelim]).getLast? != some ctcpDelim) = false := by
    rw [List.getLast?_concat]; simp
  have ht : ((ctcpDelim :: tag ++ rest ++ [ctcpDelim]).drop 1).dropLast = tag ++ rest := by simp
  simp only [decodeCTCP, hp, hlen, hd, ht, Bool.false_eq_true, if_false]
  rcases hrest with rfl | hr
  · rw [List.append_nil, BytesLemmas.indexOf_none SP tag hsp]; rfl
  · obtain ⟨r, rfl⟩ : ∃ r, rest = SP :: r := by
      cases rest with
      | nil => cases hr
      | cons c r => exact ⟨r, by rw [Option.some.inj hr]⟩
    rw [BytesLemmas.indexOf_append_cons SP r tag hsp]
    simp only [ParseLemmas.take_append_cons rfl, ParseLemmas.drop_append_cons rfl]
    rfl

theorem all_false_of_bad {tag : Bytes} {b : Byte} (hb : b ∈ tag) (hf : Spec.isUpperOrDigit b = false) :
    tag.all ctcpTagByte = false := by
  rw [ctcpTagByte_funeq, List.all_eq_false]
  exact ⟨b, hb, by simp [hf]⟩

theorem sp_not_mem (cmd : Bytes) (hcmd : cmd.all Spec.isUpperOrDigit = true) : SP ∉ cmd :=
  fun h => absurd (List.all_eq_true.mp hcmd SP h) (by decide)

/-! ## C09: base64 -/

theorem b64Char_spec (n : Nat) (h : n < 64) : b64Val (b64Char n) = some n ∧ b64Char n ≠ 0x3D :=
  (by decide : ∀ n : Fin 64, b64Val (b64Char n.val) = some n.val ∧ b64Char n.val ≠ 0x3D) ⟨n, h⟩

theorem ofNat_eq (a : UInt8) (n : Nat) (h : n = a.toNat) : UInt8.ofNat n = a := by
  rw [h]; exact UInt8.ofNat_toNat

/-- The sextets of a group, put together again. -/
theorem sextets2 (n : Nat) : n / 262144 * 64 + n / 4096 % 64 = n / 4096 := by
  rw [show n / 262144 = n / 4096 / 64 from by rw [Nat.div_div_eq_div_mul]]; exact Nat.div_add_mod' _ _
theorem sextets3 (n : Nat) : (n / 262144 * 64 + n / 4096 % 64) * 64 + n / 64 % 64 = n / 64 := by
  rw [sextets2, show n / 4096 = n / 64 / 64 from by rw [Nat.div_div_eq_div_mul]]; exact Nat.div_add_mod' _ _
theorem sextets4 (n : Nat) : ((n / 262144 * 64 + n / 4096 % 64) * 64 + n / 64 % 64) * 64 + n % 64 = n := by
  rw [sextets3]; exact Nat.div_add_mod' _ _

theorem val_top (n : Nat) (h : n < 16777216) : b64Val (b64Char (n / 262144)) = some (n / 262144) :=
  (b64Char_spec _ (Nat.div_lt_of_lt_mul h)).1
theorem val_mod (m : Nat) : b64Val (b64Char (m % 64)) = some (m % 64) := (b64Char_spec _ (Nat.mod_lt _ (by decide))).1
theorem mod_ne_pad (m : Nat) : b64Char (m % 64) ≠ 0x3D := (b64Char_spec _ (Nat.mod_lt _ (by decide))).2

theorem b64_roundtrip : ∀ x : Bytes, b64Decode (b64Encode x) = some x
  | [] => rfl
  | [a] => by
    have ha := UInt8.toNat_lt a
    rw [b64Encode.eq_3, b64Decode.eq_2, val_top _ (by omega), val_mod]
    simp only [Option.bind_eq_bind, Option.bind_some, Option.pure_def]
    rw [sextets2, ofNat_eq a _ (by omega)]
  | [a, b] => by
    have ha := UInt8.toNat_lt a
    have hb := UInt8.toNat_lt b
    rw [b64Encode.eq_2, b64Decode.eq_3 _ _ _ (mod_ne_pad _), val_top _ (by omega), val_mod, val_mod]
    simp only [Option.bind_eq_bind, Option.bind_some, Option.pure_def]
    rw [sextets3, ofNat_eq a _ (by omega), ofNat_eq b _ (by omega)]
  | a :: b :: c :: rest => by
    have ha := UInt8.toNat_lt a
    have hb := UInt8.toNat_lt b
    have hc := UInt8.toNat_lt c
    rw [b64Encode.eq_1,
      b64Decode.eq_4 _ _ _ _ _ (fun _ h _ => mod_ne_pad _ h) (fun h _ => mod_ne_pad _ h),
      val_top _ (by omega), val_mod, val_mod, val_mod, b64_roundtrip rest]
    simp only [Option.bind_eq_bind, Option.bind_some, Option.pure_def]
    rw [sextets4, ofNat_eq a _ (by omega), ofNat_eq b _ (by omega), ofNat_eq c _ (by omega)]

/-! ## C09: chunking -/

theorem fuel_succ (n : Nat) (auth : Bytes) : saslChunksFuel (n + 1) auth =
    if auth.length > 400 then auth.take 400 :: saslChunksFuel n (auth.drop 400)
    else if auth.length = 400 then [auth, PLUS] else [auth] := rfl

/-- Shape of the chunk list: full 400-byte chunks `Q`, then either the lone "+" (length a multiple
    of 400) or a short non-empty last chunk. -/
def ChunkShape (auth : Bytes) (L : List Bytes) : Prop :=
  ∃ Q last, L = Q ++ [last] ∧ (∀ c ∈ Q, c.length = 400) ∧
    ((auth.length % 400 = 0 ∧ last = PLUS ∧ Q.flatten = auth ∧ Q ≠ []) ∨
     (auth.length % 400 ≠ 0 ∧ last.length = auth.length % 400 ∧ (Q ++ [last]).flatten = auth))

theorem chunkShape_fuel : ∀ (n : Nat) (auth : Bytes), auth ≠ [] → auth.length < n →
    ChunkShape auth (saslChunksFuel n auth) := by
  intro n
  induction n with
  | zero => intro auth _ h; omega
  | succ n ih =>
    intro auth hne hlt
    have hpos : 0 < auth.length := List.length_pos_iff.mpr hne
    rw [fuel_succ]
    split
    · have hdl : (auth.drop 400).length = auth.length - 400 := List.length_drop
      obtain ⟨Q, last, hL, hQ, hcase⟩ := ih (auth.drop 400) (List.ne_nil_of_length_pos (by omega)) (by omega)
      rw [show (auth.drop 400).length % 400 = auth.length % 400 by omega] at hcase
      refine ⟨auth.take 400 :: Q, last, by rw [hL]; rfl, ?_, ?_⟩
      · intro c hc
        rcases List.mem_cons.mp hc with rfl | hc
        · rw [List.length_take]; omega
        · exact hQ c hc
      · rcases hcase with ⟨h0, hl, hf, _⟩ | ⟨h0, hl, hf⟩
        · exact .inl ⟨h0, hl, by rw [List.flatten_cons, hf, List.take_append_drop], List.cons_ne_nil _ _⟩
        · exact .inr ⟨h0, hl, by rw [List.cons_append, List.flatten_cons, hf, List.take_append_drop]⟩
    · split
      · exact ⟨[auth], PLUS, rfl, by simpa, .inl ⟨by omega, rfl, by simp, by simp⟩⟩
      · exact ⟨[], auth, rfl, by simp, .inr ⟨by omega, by omega, by simp⟩⟩

theorem chunkShape (auth : Bytes) (hne : auth ≠ []) : ChunkShape auth (saslChunks auth) :=
  chunkShape_fuel _ auth hne (Nat.lt_succ_self _)

/-! ## C18: the matcher -/

theorem span_append {α : Type} {p : α → Bool} {l a : List α} (hl : l.all p = true) (ha : a.takeWhile p = []) :
    (l ++ a).takeWhile p = l ∧ (l ++ a).dropWhile p = a := by
  have hd := List.takeWhile_append_dropWhile (p := p) (l := a)
  rw [ha, List.nil_append] at hd
  have hl' : ∀ x ∈ l, p x = true := List.all_eq_true.mp hl
  rw [List.takeWhile_append_of_pos hl', List.dropWhile_append_of_pos hl', ha, hd, List.append_nil]
  exact ⟨rfl, rfl⟩

theorem dropWhile_head {α : Type} (p : α → Bool) (l : List α) (c : α) (r : List α)
    (h : l.dropWhile p = c :: r) : p c = false := by
  have := List.head?_dropWhile_not p l
  rwa [h] at this

theorem matchCmd_drop (pfx t : Bytes) : matchCmd pfx (pfx ++ t) =
    if (t.takeWhile cmdNameByte).length < 1 || (t.takeWhile cmdNameByte).length > 20 then none
    else match t.dropWhile cmdNameByte with
      | [] => some (t.takeWhile cmdNameByte, [])
      | c :: rest => if c = SP && !rest.contains LF then some (t.takeWhile cmdNameByte, rest) else none := by
  unfold matchCmd
  have h1 : pfx.isPrefixOf (pfx ++ t) = true := by
    rw [List.isPrefixOf_iff_prefix]; exact List.prefix_append _ _
  simp only [h1, Bool.not_true, Bool.false_eq_true, if_false, List.drop_left]
  rfl

theorem matchCmd_not_prefix (pfx text : Bytes) (h : pfx.isPrefixOf text = false) : matchCmd pfx text = none := by
  unfold matchCmd; simp [h]

theorem validCmdName_iff (n : Bytes) : validCmdName n = true ↔ 1 ≤ n.length ∧ n.length ≤ 20 ∧ n.all cmdNameByte = true := by
  unfold validCmdName; simp [and_assoc]

/-! ## C18: Execute -/

theorem cmdExecute_guard (pfx : Bytes) (tbl : CmdTable) (e : Event)
    (h : ¬ (e.source.isSome ∧ e.command = PRIVMSG)) : cmdExecute pfx tbl e = .none := by
  unfold cmdExecute
  rw [if_pos]
  cases hs : e.source <;> simp_all

theorem cmdExecute_nomatch (pfx : Bytes) (tbl : CmdTable) (e : Event)
    (h : matchCmd pfx (e.params.getLastD []) = none) : cmdExecute pfx tbl e = .none := by
  unfold cmdExecute
  split
  · rfl
  · rw [h]

theorem cmdExecute_match (pfx : Bytes) (tbl : CmdTable) (e : Event) (name raw : Bytes)
    (hs : e.source.isSome) (hc : e.command = PRIVMSG)
    (h : matchCmd pfx (e.params.getLastD []) = some (name, raw)) (hn : name ≠ HELP) :
    cmdExecute pfx tbl e =
      match AMap.get? tbl name with
      | none => .none
      | some c =>
        if (((if raw.isEmpty then [] else splitOnByte SP raw).length : Nat) : Int) < c.minArgs then .usage name
        else .invoke c.id (if raw.isEmpty then [] else splitOnByte SP raw) raw := by
  unfold cmdExecute
  rw [if_neg, h]
  · simp only [if_neg hn]
    rfl
  · cases hs' : e.source <;> simp_all

theorem cmdExecute_help (pfx : Bytes) (tbl : CmdTable) (e : Event) (raw : Bytes)
    (h : matchCmd pfx (e.params.getLastD []) = some (HELP, raw)) :
    cmdExecute pfx tbl e = .none ∨ ∃ k, cmdExecute pfx tbl e = .help k := by
  generalize hact : cmdExecute pfx tbl e = act
  unfold cmdExecute at hact
  split at hact
  · exact .inl hact.symm
  · rw [h] at hact
    simp only [if_true] at hact
    subst hact
    right
    split
    · exact ⟨0, rfl⟩
    · split
      · exact ⟨1, rfl⟩
      · split
        · exact ⟨3, rfl⟩
        · exact ⟨2, rfl⟩

/-! ## C18: Add -/

theorem addAliases_cons (tbl : CmdTable) (cmd : Command) (a : Bytes) (rest : List Bytes) :
    cmdAddAliases tbl cmd (a :: rest) =
      if AMap.contains tbl a then (tbl, .duplicateAlias)
      else cmdAddAliases (AMap.set tbl a cmd) cmd rest := rfl

theorem addAliases_res (cmd : Command) (l : List Bytes) : ∀ tbl : CmdTable,
    (cmdAddAliases tbl cmd l).2 = .ok ∨ (cmdAddAliases tbl cmd l).2 = .duplicateAlias := by
  induction l with
  | nil => intro tbl; exact Or.inl rfl
  | cons a rest ih =>
    intro tbl
    rw [addAliases_cons]
    split
    · exact Or.inr rfl
    · exact ih _

theorem addAliases_ok (cmd : Command) (l : List Bytes) : ∀ tbl : CmdTable,
    (cmdAddAliases tbl cmd l).2 = .ok →
    (∀ n, AMap.get? tbl n = some cmd → AMap.get? (cmdAddAliases tbl cmd l).1 n = some cmd) ∧
    (∀ n ∈ l, AMap.get? (cmdAddAliases tbl cmd l).1 n = some cmd) := by
  induction l with
  | nil => intro tbl _; exact ⟨fun n h => h, nofun⟩
  | cons a rest ih =>
    intro tbl
    rw [addAliases_cons]
    split
    · nofun
    · intro h
      obtain ⟨ih1, ih2⟩ := ih (AMap.set tbl a cmd) h
      refine ⟨fun n hn => ih1 n ?_, fun n hn => ?_⟩
      · rw [InvBase.get?_set]
        split
        · rfl
        · exact hn
      · rcases List.mem_cons.mp hn with rfl | hn
        · exact ih1 n (InvBase.get?_set_self tbl _ cmd)
        · exact ih2 n hn

/-- `Add` on the normalised command, with name, aliases and stored command as variables. -/
theorem cmdAdd_result (tbl : CmdTable) (name : Bytes) (aliases : List Bytes) (c : Command) (r : CmdTable × AddResult)
    (hr : r = if !validCmdName name then (tbl, .invalidName) else if !aliases.all validCmdName then (tbl, .invalidName)
      else if AMap.contains tbl name then (tbl, .duplicateName) else cmdAddAliases (AMap.set tbl name c) c aliases) :
    (r.2 = .invalidName ↔ (validCmdName name = false ∨ ∃ a ∈ aliases, validCmdName a = false)) ∧
    (r.2 = .duplicateName → AMap.contains tbl name = true ∧ r.1 = tbl) ∧
    (r.2 = .ok → ∀ n ∈ name :: aliases, AMap.get? r.1 n = some c) := by
  have hall : (∃ a ∈ aliases, validCmdName a = false) ↔ aliases.all validCmdName = false := by
    simp [List.all_eq_false]
  rw [hall]
  subst hr
  cases h1 : validCmdName name
  · simp
  cases h2 : aliases.all validCmdName
  · simp
  cases h3 : AMap.contains tbl name
  · rcases addAliases_res c aliases (AMap.set tbl name c) with hr | hr
    · have hok := addAliases_ok c aliases _ hr
      refine ⟨by simp [hr], by simp [hr], fun _ n hn => ?_⟩
      rcases List.mem_cons.mp hn with rfl | hn
      · exact hok.1 _ (InvBase.get?_set_self tbl _ c)
      · exact hok.2 n hn
    · simp [hr]
  · simp

end Girc.Proofs.PureAux

namespace Girc.Proofs.Pure
open Girc Girc.Model Girc.Proofs.PureAux

/-! ## C14 codec -/

def upperOrDigit (cmd : Bytes) : Bool := cmd.all Spec.isUpperOrDigit

/-! ## C09 chunking and base64 -/

/-- The payload chunks: everything, minus the lone "+" terminator when the length is a multiple of 400. -/
def payloads (auth : Bytes) : List Bytes :=
  if auth.length % 400 = 0 then (saslChunks auth).dropLast else saslChunks auth

theorem chunks_exact (auth : Bytes) (hne : auth ≠ []) :
    (payloads auth).flatten = auth ∧
    (∀ c ∈ payloads auth, 1 ≤ c.length ∧ c.length ≤ 400) ∧
    (∀ c ∈ (payloads auth).dropLast, c.length = 400) ∧
    (auth.length % 400 = 0 → (saslChunks auth).getLast? = some PLUS ∧ ((payloads auth).getLast?.map List.length) = some 400) ∧
    (auth.length % 400 ≠ 0 → ((saslChunks auth).getLast?.map List.length) = some (auth.length % 400)) := by
  rcases chunkShape auth hne with ⟨Q, last, hL, hQ, hcase⟩
  unfold payloads
  rw [hL]
  rcases hcase with ⟨h0, hl, hf, hQne⟩ | ⟨h0, hl, hf⟩
  · rw [if_pos h0, List.dropLast_concat]
    refine ⟨hf, ?_, ?_, ?_, fun h => absurd h0 h⟩
    · intro c hc; rw [hQ c hc]; omega
    · intro c hc; exact hQ c (List.dropLast_subset Q hc)
    · intro _
      refine ⟨by simp [hl], ?_⟩
      rw [List.getLast?_eq_some_getLast hQne]
      simp [hQ _ (List.getLast_mem hQne)]
  · rw [if_neg h0, List.dropLast_concat]
    refine ⟨hf, ?_, hQ, fun h => absurd h h0, ?_⟩
    · intro c hc
      rcases List.mem_append.mp hc with hc | hc
      · rw [hQ c hc]; omega
      · simp at hc; rw [hc, hl]; omega
    · intro _; simp [hl]

/-! ## C16 arithmetic -/

/-- The delay is either nothing or exactly the event's cost, and it is the cost exactly when the
    outstanding allowance is exceeded. -/
theorem delay_exact (wd since : Int) (n : Nat) :
    ((rate wd since n).2 = 0 ∨ (rate wd since n).2 = cost n) ∧
    ((rate wd since n).2 = cost n ↔ (rate wd since n).1 > 8 * second) ∧ 0 ≤ (rate wd since n).1 := by
  have := cost_ge n
  have := second_pos
  simp only [rate]
  omega

/-- One call of a serial sender: observed idle time `since ≥ 0`, event size, and scheduling slack
    `extra ≥ 0` (the event is written at least `delay` after the call). -/
structure Step where
  since : Int
  chars : Nat
  extra : Int

/-- Runs a serial trace: returns (final writeDelay, wall-clock elapsed between the write before the
    first call and the last write, total cost of the events). -/
def runTrace : Int → List Step → Int × Int × Int
  | wd, [] => (wd, 0, 0)
  | wd, s :: rest =>
    let (wd', d) := rate wd s.since s.chars
    let (wdf, el, tot) := runTrace wd' rest
    (wdf, s.since + d + s.extra + el, cost s.chars + tot)

theorem runTrace_cons (wd : Int) (s : Step) (rest : List Step) :
    runTrace wd (s :: rest) =
      ((runTrace (rate wd s.since s.chars).1 rest).1,
       s.since + (rate wd s.since s.chars).2 + s.extra + (runTrace (rate wd s.since s.chars).1 rest).2.1,
       cost s.chars + (runTrace (rate wd s.since s.chars).1 rest).2.2) := rfl

theorem leaky_inv (tr : List Step) : ∀ (wd : Int), 0 ≤ wd →
    (∀ s ∈ tr, 0 ≤ s.since ∧ 0 ≤ s.extra) →
    (runTrace wd tr).2.2 + min wd (8 * second) ≤ min (runTrace wd tr).1 (8 * second) + (runTrace wd tr).2.1 := by
  induction tr with
  | nil => intro wd _ _; simp [runTrace]
  | cons s rest ih =>
    intro wd hwd h
    have hs := h s (by simp)
    have hd := rate_step wd s.since s.chars hs.1
    have ih' := ih (rate wd s.since s.chars).1 hd.2.1 fun t ht => h t (by simp [ht])
    rw [runTrace_cons]
    dsimp only
    omega

/-- Leaky bucket: over ANY window of a serial trace, the total cost written is at most the 8 s
    allowance plus the wall-clock time the window took. -/
theorem leaky_bucket (wd : Int) (tr : List Step) (hwd : 0 ≤ wd)
    (h : ∀ s ∈ tr, 0 ≤ s.since ∧ 0 ≤ s.extra) :
    (runTrace wd tr).2.2 ≤ 8 * second + (runTrace wd tr).2.1 := by
  have := leaky_inv tr wd hwd h
  have := second_pos
  omega

theorem tot_ge (tr : List Step) : ∀ wd : Int, (tr.length : Int) * second ≤ (runTrace wd tr).2.2 := by
  induction tr with
  | nil => intro wd; simp [runTrace]
  | cons s rest ih =>
    intro wd
    rw [runTrace_cons]
    have := ih (rate wd s.since s.chars).1
    have hc := cost_ge s.chars
    simp only [List.length_cons]
    generalize (runTrace (rate wd s.since s.chars).1 rest).2.2 = t at *
    unfold second at *
    push_cast
    omega

/-! ## C18 -/

/-- The regexp match, characterised: the text is prefix ++ name [++ " " ++ rest]. -/
theorem matchCmd_iff (pfx text name rest : Bytes) :
    matchCmd pfx text = some (name, rest) ↔
      validCmdName name = true ∧ LF ∉ rest ∧
      (text = pfx ++ name ∧ rest = [] ∨ text = pfx ++ name ++ SP :: rest) := by
  constructor
  · intro h
    by_cases hp : pfx.isPrefixOf text = true
    · obtain ⟨t, rfl⟩ := List.isPrefixOf_iff_prefix.mp hp
      rw [matchCmd_drop] at h
      have hall := List.all_takeWhile (p := cmdNameByte) (l := t)
      have happ := List.takeWhile_append_dropWhile (p := cmdNameByte) (l := t)
      generalize t.takeWhile cmdNameByte = n at h hall happ
      generalize t.dropWhile cmdNameByte = a at h happ
      subst happ
      obtain ⟨hlen, h⟩ := Option.ite_none_left_eq_some.mp h
      simp only [Bool.or_eq_true, decide_eq_true_eq, not_or] at hlen
      have hv : validCmdName n = true := (validCmdName_iff n).2 ⟨by omega, by omega, hall⟩
      cases a with
      | nil => cases h; exact ⟨hv, List.not_mem_nil, .inl ⟨by rw [List.append_nil], rfl⟩⟩
      | cons c r =>
        obtain ⟨hc, h⟩ := Option.ite_some_none_eq_some.mp h
        cases h
        simp only [Bool.and_eq_true, decide_eq_true_eq, Bool.not_eq_true', List.contains_eq_mem, decide_eq_false_iff_not] at hc
        exact ⟨hv, hc.2, .inr (by rw [hc.1, List.append_assoc])⟩
    · rw [matchCmd_not_prefix pfx text ((Bool.not_eq_true _).mp hp)] at h
      cases h
  · rintro ⟨hv, hlf, h⟩
    obtain ⟨h1, h2, hall⟩ := (validCmdName_iff name).1 hv
    have hcond : (decide (name.length < 1) || decide (name.length > 20)) = false := by
      simp only [Bool.or_eq_false_iff, decide_eq_false_iff_not]; omega
    rcases h with ⟨rfl, rfl⟩ | rfl
    · obtain ⟨ht, hd⟩ := span_append (a := []) hall rfl
      rw [List.append_nil] at ht hd
      rw [matchCmd_drop, ht, hd, hcond]
      rfl
    · obtain ⟨ht, hd⟩ := span_append (a := SP :: rest) hall (List.takeWhile_cons_of_neg (by decide))
      rw [List.append_assoc, matchCmd_drop, ht, hd, hcond]
      simp [hlf]

/-- Whatever `Execute` does besides nothing and the help replies, it does for a matched, registered command. -/
theorem cmdExecute_command (pfx : Bytes) (tbl : CmdTable) (e : Event) (act : CmdAction)
    (h : cmdExecute pfx tbl e = act) (hn : act ≠ .none) (hh : ∀ k, act ≠ .help k) :
    e.source.isSome ∧ e.command = PRIVMSG ∧
    ∃ name raw c args, args = (if raw.isEmpty then [] else splitOnByte SP raw) ∧
      matchCmd pfx (e.params.getLastD []) = some (name, raw) ∧ name ≠ HELP ∧ AMap.get? tbl name = some c ∧
      act = if (args.length : Int) < c.minArgs then .usage name else .invoke c.id args raw := by
  subst h
  by_cases hg : e.source.isSome ∧ e.command = PRIVMSG
  · refine ⟨hg.1, hg.2, ?_⟩
    cases hm : matchCmd pfx (e.params.getLastD []) with
    | none => exact absurd (cmdExecute_nomatch pfx tbl e hm) hn
    | some nr =>
      obtain ⟨name, raw⟩ := nr
      by_cases hname : name = HELP
      · subst hname
        rcases cmdExecute_help pfx tbl e raw hm with hk | ⟨k, hk⟩
        · exact absurd hk hn
        · exact absurd hk (hh k)
      · have hc := cmdExecute_match pfx tbl e name raw hg.1 hg.2 hm hname
        cases hget : AMap.get? tbl name with
        | none => rw [hget] at hc; exact absurd hc hn
        | some c => rw [hget] at hc; exact ⟨name, raw, c, _, rfl, rfl, hname, hget, hc⟩
  · exact absurd (cmdExecute_guard pfx tbl e hg) hn

end Girc.Proofs.Pure
