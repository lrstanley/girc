import Girc.Spec.EventSpec
import Girc.Proofs.Tags
import Girc.Proofs.ParseSections
/-
  C03: `Event.Bytes` / `Event.Len`. `san` is the sanitiser (`toValidUTF8 []`, then drop CR/LF): it only deletes
  bytes (`san_sublist`) and distributes over ASCII separators (`san_append_ascii`); `rawBytes_length` ties the
  raw buffer to `eventLen` for all events. The buffer is fields appended with ASCII separators, so what is kept
  by appending and holds of fields and separators holds of the buffer (`rawBytes_pred`): a clean event is written
  as it is (`len_eq`), and for any event the leading sections stay sections (`command_preserved`).
-/
namespace Girc.Proofs.Serialize
open Girc Girc.Model Girc.Spec Girc.Proofs.Utf8 Girc.Proofs.ParseLemmas Girc.Proofs.ParseParams
  Girc.Proofs.ParseSections

/-- The sanitiser applied by `Event.Bytes`. -/
def san (s : Bytes) : Bytes := (toValidUTF8 [] s).filter (fun b => !isCRLF b)

theorem eventBytes_eq_san (e : Event) : eventBytes e = san (rawBytes e) := rfl

theorem san_nil : san [] = [] := rfl

theorem san_sublist (s : Bytes) : (san s).Sublist s :=
  (List.filter_sublist).trans (toValidUTF8_nil_sublist s)

theorem san_append_ascii (a b : Bytes) (x : Byte) (hx : x < 0x80) (hn : isCRLF x = false) :
    san (a ++ x :: b) = san a ++ x :: san b := by
  simp [san, toValidUTF8_append_ascii [] a b x hx, hn]

theorem sourceBytes_length (s : Source) : (sourceBytes s).length = sourceLen s := by
  unfold sourceBytes sourceLen
  simp only [List.length_append]
  split <;> split <;> simp <;> omega

theorem paramsBytes_length : ∀ ps : List Bytes, (paramsBytes ps).length = paramsLen ps
  | [] => rfl
  | [p] => by
    simp only [paramsBytes, paramsLen]
    split <;> simp <;> omega
  | p :: q :: ps => by
    have := paramsBytes_length (q :: ps)
    simp only [paramsBytes, paramsLen, List.length_cons, List.length_append] at this ⊢
    omega

theorem tagsWrite_length_some (t : Tags) :
    (tagsWrite (some t)).length = if t.length > 0 then tagsLen (some t) + 1 else 0 := by
  cases t with
  | nil => rfl
  | cons p t => simp [tagsWrite, tagsBytes, tagsLen]

theorem rawBytes_length (e : Event) : (rawBytes e).length = eventLen e := by
  obtain ⟨tags, source, command, params⟩ := e
  have hnone : tagsWrite none = [] := rfl
  cases tags <;> cases source <;>
    simp [rawBytes, eventLen, paramsBytes_length, sourceBytes_length, tagsWrite_length_some, hnone] <;> omega

theorem len_ge (e : Event) : (eventBytes e).length ≤ eventLen e := by
  rw [← rawBytes_length, eventBytes_eq_san]
  exact (san_sublist _).length_le

theorem rawBytes_eq (e : Event) : rawBytes e =
    tagsWrite e.tags ++ (secPart COLON (e.source.map sourceBytes) ++ (e.command ++ paramsBytes e.params)) := by
  obtain ⟨t, s, c, p⟩ := e
  cases s <;> simp [rawBytes, secPart]

theorem spLead_paramsBytes : ∀ ps : List Bytes, SpLead (paramsBytes ps)
  | [] => spLead_nil
  | [p] => by unfold paramsBytes; split <;> exact spLead_cons _
  | _ :: _ :: _ => spLead_cons _

/-! ### The buffer is built by appending fields and ASCII separators: what is kept by appending and holds of
    the fields and the separators holds of the buffer -/

theorem ite_pred {P : Bytes → Prop} {c : Prop} [Decidable c] {a b : Bytes} (ha : P a) (hb : P b) :
    P (if c then a else b) := by
  split <;> assumption

section pred
variable {P : Bytes → Prop} (hnil : P []) (happ : ∀ a b, P a → P b → P (a ++ b))
include hnil happ

theorem tagItem_pred (heq : P [0x3D]) {k v : Bytes} (hk : P k) (hv : P v) : P (tagItem k v) :=
  happ _ _ hk (ite_pred (happ [0x3D] _ heq hv) hnil)

theorem tagsBytesLoop_pred (heq : P [0x3D]) (hsemi : P [0x3B]) (t : Tags) : ∀ (ks : List Bytes) (cur : Nat),
    (∀ k ∈ ks, P k ∧ P ((AMap.get? t k).getD [])) → P (tagsBytesLoop t ks cur)
  | [], _, _ => hnil
  | k :: ks, cur, h => by
    have hk := h k List.mem_cons_self
    rw [Tags.tagsBytesLoop_cons t k ks cur _ rfl]
    exact ite_pred hnil (happ _ _ (happ _ _ (tagItem_pred hnil happ heq hk.1 hk.2) (ite_pred hnil hsemi))
      (tagsBytesLoop_pred heq hsemi t ks _ (fun k' hk' => h k' (List.mem_cons_of_mem _ hk'))))

omit happ in
theorem sorted_keys_pred (t : Tags) (h : ∀ p ∈ t, P p.1 ∧ P p.2) :
    ∀ k ∈ sortBytes (AMap.keys t), P k ∧ P ((AMap.get? t k).getD []) := by
  intro k hk
  obtain ⟨q, hq, rfl⟩ := List.mem_map.mp ((InvBase.mem_sortBytes k _).mp hk)
  refine ⟨(h q hq).1, ?_⟩
  cases hl : AMap.get? t q.1 with
  | none => exact hnil
  | some v => exact (h _ (InvBase.get?_some_mem hl)).2

omit hnil happ in
theorem tagsWrite_cases (t : Option Tags) : tagsWrite t = [] ∨
    ∃ m, t = some m ∧ tagsWrite t = secPart AT (some (tagsBytesLoop m (sortBytes (AMap.keys m)) 1)) := by
  rcases t with _ | _ | ⟨p, m⟩
  · exact .inl rfl
  · exact .inl rfl
  · exact .inr ⟨_, rfl, rfl⟩

theorem tagsWrite_pred (hat : P [AT]) (hsp : P [SP]) (heq : P [0x3D]) (hsemi : P [0x3B]) (t : Option Tags)
    (h : ∀ m, t = some m → ∀ p ∈ m, P p.1 ∧ P p.2) : P (tagsWrite t) := by
  rcases tagsWrite_cases t with e | ⟨m, rfl, e⟩ <;> rw [e]
  · exact hnil
  · exact happ [AT] _ hat (happ _ _ (tagsBytesLoop_pred hnil happ heq hsemi m _ _
      (sorted_keys_pred hnil m (h m rfl))) hsp)

theorem sourceBytes_pred (hbang : P [BANG]) (hat : P [AT]) (s : Source)
    (h : P s.name ∧ P s.ident ∧ P s.host) : P (sourceBytes s) :=
  happ _ _ (happ _ _ h.1 (ite_pred (happ [BANG] _ hbang h.2.1) hnil)) (ite_pred (happ [AT] _ hat h.2.2) hnil)

theorem paramsBytes_pred (hsp : P [SP]) (hcol : P [COLON]) : ∀ ps : List Bytes, (∀ p ∈ ps, P p) →
    P (paramsBytes ps)
  | [], _ => hnil
  | [p], h => by
    have hp := h p List.mem_cons_self
    exact ite_pred (happ [SP] _ hsp (happ [COLON] _ hcol hp)) (happ [SP] _ hsp hp)
  | p :: q :: ps, h =>
    happ [SP] _ hsp (happ _ _ (h p List.mem_cons_self)
      (paramsBytes_pred hsp hcol (q :: ps) (fun x hx => h x (List.mem_cons_of_mem _ hx))))

theorem rawBytes_pred (hsp : P [SP]) (hcol : P [COLON]) (hat : P [AT]) (hbang : P [BANG]) (heq : P [0x3D])
    (hsemi : P [0x3B]) (e : Event) (hc : P e.command) (hp : ∀ p ∈ e.params, P p)
    (hs : ∀ s, e.source = some s → P s.name ∧ P s.ident ∧ P s.host)
    (ht : ∀ m, e.tags = some m → ∀ p ∈ m, P p.1 ∧ P p.2) : P (rawBytes e) := by
  unfold rawBytes
  refine happ _ _ (happ _ _ (happ _ _ (tagsWrite_pred hnil happ hat hsp heq hsemi _ ht) ?_) hc)
    (paramsBytes_pred hnil happ hsp hcol _ hp)
  cases hsrc : e.source with
  | none => exact hnil
  | some s =>
    exact happ _ _ (happ [COLON] _ hcol (sourceBytes_pred hnil happ hbang hat s (hs s hsrc))) hsp

end pred

open Girc.Proofs.RoundtripLemmas in
theorem clean_rawBytes (e : Event) (hc : Clean e.command) (hp : ∀ p ∈ e.params, Clean p)
    (hs : ∀ s, e.source = some s → Clean s.name ∧ Clean s.ident ∧ Clean s.host)
    (ht : ∀ m, e.tags = some m → ∀ p ∈ m, Clean p.1 ∧ Clean p.2) : Clean (rawBytes e) :=
  rawBytes_pred Clean.nil (fun _ _ => Clean.append) (.single (by decide) (by decide))
    (.single (by decide) (by decide)) (.single (by decide) (by decide)) (.single (by decide) (by decide))
    (.single (by decide) (by decide)) (.single (by decide) (by decide)) e hc hp hs ht

open Girc.Proofs.RoundtripLemmas in
theorem len_eq (e : Event) (h : cleanEvent e = true) : eventLen e = (eventBytes e).length := by
  simp only [cleanEvent, Bool.and_eq_true, List.all_eq_true, Option.all_eq_true, cleanField_iff, and_assoc] at h
  obtain ⟨hc, hp, hs, ht⟩ := h
  rw [← rawBytes_length]
  exact congrArg List.length (clean_rawBytes e hc hp hs ht).filter.symm

/-! ### The command token survives serialisation

Sanitising keeps the `@tags ` and `:source ` sections as sections and the command as it is; reading the
command off such a line skips the sections. -/

theorem noSpace_iff (s : Bytes) : noSpace s = true ↔ SP ∉ s := by
  simp [noSpace]

theorem san_cons_ascii (x : Byte) (b : Bytes) (hx : x < 0x80) (hn : isCRLF x = false) :
    san (x :: b) = x :: san b :=
  san_append_ascii [] b x hx hn

theorem san_secPart (lead : Byte) (hl1 : lead < 0x80) (hl2 : isCRLF lead = false) (o : Option Bytes) (R : Bytes) :
    san (secPart lead o ++ R) = secPart lead (o.map san) ++ san R := by
  cases o with
  | none => rfl
  | some u =>
    show san (lead :: (u ++ [SP] ++ R)) = lead :: (san u ++ [SP] ++ san R)
    rw [san_cons_ascii lead _ hl1 hl2, List.append_assoc, List.append_assoc]
    exact congrArg _ (san_append_ascii u R SP (by decide) (by decide))

theorem san_cmd_tail (c P : Bytes) (hc : RoundtripLemmas.Clean c) (hP : SpLead P) :
    ∃ P', SpLead P' ∧ san (c ++ P) = c ++ P' := by
  by_cases hne : P = []
  · subst hne
    exact ⟨[], spLead_nil, by rw [List.append_nil]; exact hc.filter⟩
  · rw [spLead_eq P hP hne, san_append_ascii c _ SP (by decide) (by decide), show san c = c from hc.filter]
    exact ⟨_, spLead_cons _, rfl⟩

theorem bne_of_not_mem {x : Byte} {u : Bytes} (h : x ∉ u) : ∀ a ∈ u, (a != x) = true :=
  fun _ ha => bne_iff_ne.mpr fun e => h (e ▸ ha)

theorem skipSection_secPart (lead : Byte) (hl : lead ≠ SP) (o : Option Bytes) (R : Bytes)
    (ho : ∀ u, o = some u → SP ∉ u) (hR : R.head? ≠ some lead) : skipSection lead (secPart lead o ++ R) = R := by
  unfold skipSection
  cases o with
  | none => exact if_neg hR
  | some u =>
    simp only [secPart, List.cons_append, List.append_assoc, List.nil_append]
    rw [if_pos List.head?_cons, ← List.cons_append, List.dropWhile_append_of_pos (bne_of_not_mem fun h =>
      (List.mem_cons.mp h).elim (fun e => hl e.symm) (ho u rfl))]
    rfl

theorem lineCommand_sections (oT oS : Option Bytes) (c P' : Bytes) (hT : ∀ u, oT = some u → SP ∉ u)
    (hS : ∀ u, oS = some u → SP ∉ u) (hne : c ≠ []) (hsp : SP ∉ c) (hcol : c.head? ≠ some COLON)
    (hat : c.head? ≠ some AT) (hP : SpLead P') :
    lineCommand (secPart AT oT ++ (secPart COLON oS ++ (c ++ P'))) = c := by
  obtain ⟨x, c', rfl⟩ := List.exists_cons_of_ne_nil hne
  unfold lineCommand
  rw [skipSection_secPart AT (by decide) oT _ hT (by cases oS; exact hat; simp [secPart, show COLON ≠ AT by decide]),
    skipSection_secPart COLON (by decide) oS (x :: c' ++ P') hS hcol, List.takeWhile_append_of_pos (bne_of_not_mem hsp)]
  rcases hP with rfl | hP
  · exact List.append_nil _
  · rw [spLead_eq P' (.inr hP) (by rintro rfl; cases hP)]
    exact List.append_nil _

theorem tagsWrite_secPart (t : Option Tags) (ht : ∀ t', t = some t' → ∀ p ∈ t', SP ∉ p.1 ∧ SP ∉ p.2) :
    ∃ o, tagsWrite t = secPart AT o ∧ ∀ u, o = some u → SP ∉ u := by
  rcases tagsWrite_cases t with e | ⟨m, rfl, e⟩
  · exact ⟨none, e, nofun⟩
  · refine ⟨_, e, fun u hu => Option.some.inj hu ▸ ?_⟩
    exact tagsBytesLoop_pred (P := (SP ∉ ·)) List.not_mem_nil not_mem_append (by decide) (by decide) m _ _
      (sorted_keys_pred List.not_mem_nil m (ht m rfl))

theorem singleToken_facts {c : Bytes} (hc : singleToken c = true) :
    c ≠ [] ∧ RoundtripLemmas.Clean c ∧ SP ∉ c ∧ c.head? ≠ some COLON ∧ c.head? ≠ some AT := by
  simp only [singleToken, Bool.and_eq_true, Bool.not_eq_true', bne_iff_ne, ne_eq] at hc
  obtain ⟨⟨⟨⟨h1, h2⟩, h3⟩, h4⟩, h5⟩ := hc
  exact ⟨fun h => by subst h; simp at h1, ⟨h2, .of_all h3 (by decide) (by decide)⟩,
    not_mem_of_all h3 (by decide), h4, h5⟩

theorem not_mem_san {x : Byte} {s : Bytes} (h : x ∉ s) : x ∉ san s :=
  fun hm => h ((san_sublist s).subset hm)

/-- For a single-token command the wire line's command is the event's command, whatever bytes
    (CR, LF, NUL, invalid UTF-8, embedded commands) the parameters contain. The two stated hypotheses:
    source parts and tag keys/values contain no SPACE (tag maps built through `Tags.Set` never do). -/
theorem command_preserved (e : Event) (hc : singleToken e.command = true)
    (hs : ∀ s, e.source = some s → noSpace s.name = true ∧ noSpace s.ident = true ∧ noSpace s.host = true)
    (ht : ∀ t, e.tags = some t → ∀ p ∈ t, noSpace p.1 = true ∧ noSpace p.2 = true) :
    lineCommand (eventBytes e) = e.command := by
  obtain ⟨hne, hclean, hsp, hcol, hat⟩ := singleToken_facts hc
  simp only [noSpace_iff] at hs ht
  obtain ⟨P', hP', hcore⟩ := san_cmd_tail e.command _ hclean (spLead_paramsBytes e.params)
  obtain ⟨oT, hT, hoT⟩ := tagsWrite_secPart e.tags ht
  rw [eventBytes_eq_san, rawBytes_eq, hT, san_secPart AT (by decide) (by decide),
    san_secPart COLON (by decide) (by decide), hcore]
  refine lineCommand_sections _ _ _ _ ?_ ?_ hne hsp hcol hat hP' <;>
    simp only [Option.map_eq_some_iff, forall_exists_index, and_imp, forall_apply_eq_imp_iff₂]
  · exact fun v hv => not_mem_san (hoT v hv)
  · exact fun s hs' => not_mem_san (sourceBytes_pred (P := (SP ∉ ·)) List.not_mem_nil not_mem_append (by decide)
      (by decide) s (hs s hs'))

end Girc.Proofs.Serialize
