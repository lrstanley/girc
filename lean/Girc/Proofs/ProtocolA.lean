import Girc.Model.Run
import Girc.Model.Sts
import Girc.Model.Log
import Girc.Spec.EventSpec
import Girc.Proofs.Roundtrip
import Girc.Proofs.ProtocolBAux
import Girc.Proofs.Pure
/-
  The dispatcher's answers that need no tracked state: the nick-collision numerics and their proposals
  (C17), the discipline of automatic CTCP replies (C14), and SASL — `handleCommand` for every command
  past the state commands (`handleCommand_late`), then what AUTHENTICATE and the SASL numerics write,
  inject and end (C09).
-/
namespace Girc.Proofs.ProtocolA
open Girc Girc.Model Girc.Spec Girc.Proofs.ProtocolBAux Girc.Proofs.PureAux

/-! ## C17 -/

def isNickErr (c : Bytes) : Bool := c = c433 || c = c436 || c = c437

/-- The nickname a collision numeric "<client> <nick> :reason" rejects (else the current one). -/
def rejectedNick (cfg : Cfg) (st : St) (e : Event) : Bytes :=
  match e.params with
  | _ :: n :: _ => if isValidNick n then n else collisionBase cfg st
  | _ => collisionBase cfg st

def nickEvent (n : Bytes) : Event := { command := cNICK, params := [n] }

theorem handleTags_nick (st : St) (e : Event) : (handleTags st e).nick = st.nick := by
  unfold handleTags
  split
  · split
    · rfl
    · split
      · unfold updUser; split <;> rfl
      · rfl
  · rfl

theorem rejectedNick_tagged (cfg : Cfg) (cs : CState) (e : Event) :
    rejectedNick cfg (tagged cfg cs e).st e = rejectedNick cfg cs.st e := by
  unfold tagged
  split
  · rfl
  · simp only [rejectedNick, collisionBase, getNick, handleTags_nick]

theorem nickCollision_none (cfg : Cfg) (st : St) (e : Event) (hcb : cfg.nickCollide = .none) :
    nickCollision cfg st e = [Out.send (nickEvent (rejectedNick cfg st e ++ [0x5F]))] := by
  simp only [nickCollision, hcb, rejectedNick, nickEvent]
  generalize e.params = ps
  rcases ps with _ | ⟨a, _ | ⟨b, t⟩⟩ <;> rfl

theorem handleCommand_nickErr (cfg : Cfg) (cs : CState) (e : Event) (hc : isNickErr e.command = true) :
    handleCommand cfg cs e = .ok (cs, nickCollision cfg cs.st e) := by
  have h1 : e.command ≠ cPING := by
    intro h; rw [h] at hc; revert hc; decide
  have h2 : e.command ≠ c001 := by
    intro h; rw [h] at hc; revert hc; decide
  unfold isNickErr at hc
  unfold handleCommand
  simp only [h1, h2, hc, if_false, if_true]

theorem nickErr_not_msg (c : Bytes) (hc : isNickErr c = true) : c ≠ PRIVMSG ∧ c ≠ NOTICE := by
  constructor <;> (intro h; rw [h] at hc; revert hc; decide)

/-- With a callback: its value, and nothing if it returns the empty string. -/
theorem collision_callback (cfg : Cfg) (cs : CState) (e : Event) (time idle : Bytes) (n : Bytes)
    (hc : isNickErr e.command = true) (hcb : cfg.nickCollide = .fixed n) :
    ∃ cs', handleEvent cfg cs e time idle = .ok (cs', if n.isEmpty then [] else [Out.send (nickEvent n)]) := by
  obtain ⟨h1, h2⟩ := nickErr_not_msg _ hc
  refine ⟨tagged cfg cs e, handleEvent_of_cmd cfg cs e time idle h1 h2 _ _ ?_⟩
  rw [handleCommand_nickErr cfg _ e hc]
  simp only [nickCollision, hcb, nickEvent]

/-- The k-th proposal when the server rejects every proposal in turn. -/
def proposal (nick : Bytes) : Nat → Bytes
  | 0 => nick
  | k + 1 => proposal nick k ++ [0x5F]

theorem isValidNick_snoc (s : Bytes) (h : isValidNick s = true) : isValidNick (s ++ [0x5F]) = true := by
  cases s with
  | nil => cases h
  | cons c rest =>
    have h5 : Model.nickRest 0x5F = true := by decide
    simp only [isValidNick, Bool.and_eq_true] at h
    simp only [List.cons_append, isValidNick, List.all_append, List.all_cons, List.all_nil, h.1, h.2, h5,
      Bool.and_self]

theorem proposal_valid (nick : Bytes) (hn : isValidNick nick = true) (k : Nat) :
    isValidNick (proposal nick k) = true := by
  induction k with
  | zero => exact hn
  | succ k ih => exact isValidNick_snoc _ ih

theorem proposal_eq (nick : Bytes) (k : Nat) : proposal nick k = nick ++ List.replicate k 0x5F := by
  induction k with
  | zero => simp [proposal]
  | succ k ih => simp [proposal, ih, List.replicate_succ']

/-- Successive collisions: nick_, nick__, … — each numeric names the previous proposal, the answer
    appends one more '_'; all proposals are valid nicks and pairwise distinct, so a rejected
    nickname is never proposed again. -/
theorem collision_progression (nick : Bytes) (hn : isValidNick nick = true) :
    (∀ k, isValidNick (proposal nick k) = true) ∧
    (∀ k, proposal nick k = nick ++ List.replicate k 0x5F) ∧
    (∀ i j, i ≠ j → proposal nick i ≠ proposal nick j) ∧
    (∀ (cfg : Cfg) (st : St) (k : Nat) (cl reason : Bytes), cfg.nickCollide = .none →
      nickCollision cfg st { command := c433, params := [cl, proposal nick k, reason] } =
        [Out.send (nickEvent (proposal nick (k + 1)))]) := by
  refine ⟨proposal_valid nick hn, proposal_eq nick, ?_, ?_⟩
  · intro i j hij h
    have := congrArg List.length h
    simp only [proposal_eq, List.length_append, List.length_replicate] at this
    omega
  · intro cfg st k cl reason hcb
    simp only [nickCollision, hcb, proposal_valid nick hn k, if_true, nickEvent, proposal]

/-! ## C14 reply discipline -/

/-- Every automatic answer is a NOTICE to the (folded) requester, produced only for a request
    (not a reply) that carries a source, and never for ACTION. -/
theorem reply_discipline (cfg : Cfg) (ev : CTCPEvent) (time idle : Bytes) :
    ∀ o ∈ ctcpCall cfg ev time idle,
      ev.reply = false ∧ ev.command ≠ tACTION ∧
      ∃ src typ msg, ev.source = some src ∧ typ ≠ [] ∧
        o = Out.send { command := NOTICE, params := [fold src.name, encodeCTCPRaw typ msg] } := by
  intro o ho
  rcases ctcpCall_cases cfg ev time idle with h | ⟨hr, ha, src, typ, msg, hsrc, ht, h⟩
  · rw [h] at ho; cases ho
  · rw [h] at ho
    simp only [List.mem_singleton] at ho
    exact ⟨hr, ha, src, typ, msg, hsrc, ht, ho⟩

/-- At the level of received events: CTCP answers come only from PRIVMSG events. -/
theorem replies_only_to_privmsg (cfg : Cfg) (e : Event) (ev : CTCPEvent) (time idle : Bytes)
    (hd : decodeCTCP e = some ev) (hne : ctcpCall cfg ev time idle ≠ []) :
    e.command = PRIVMSG ∧ e.source.isSome := by
  rcases ctcpCall_cases cfg ev time idle with h | ⟨hr, ha, src, typ, msg, hsrc, ht, h⟩
  · exact absurd h hne
  · obtain ⟨h1, h2⟩ := decodeCTCP_some e ev hd
    have hn : e.command ≠ NOTICE := by
      intro hc; rw [hc] at h1; rw [hr] at h1; revert h1; decide
    constructor
    · false_or_by_contra
      rename_i hp
      rw [decodeCTCP_none e hp hn] at hd
      cases hd
    · rw [← h2, hsrc]; rfl

/-- No reply loop: whatever a client answers automatically, received by ANY client (any
    configuration, as a NOTICE from anyone), triggers no automatic answer. -/
theorem no_reply_loop (cfg cfg' : Cfg) (ev : CTCPEvent) (time idle time' idle' : Bytes) :
    ∀ o ∈ ctcpCall cfg ev time idle, ∀ reply, o = Out.send reply →
      ∀ (src' : Option Source) (tags' : Option Tags) (ev' : CTCPEvent),
        decodeCTCP { reply with source := src', tags := tags' } = some ev' →
        ctcpCall cfg' ev' time' idle' = [] := by
  intro o ho reply hrep src' tags' ev' hd
  obtain ⟨_, _, src, typ, msg, _, _, ho'⟩ := reply_discipline cfg ev time idle o ho
  rw [ho'] at hrep
  cases hrep
  obtain ⟨h1, _⟩ := decodeCTCP_some _ ev' hd
  rcases ctcpCall_cases cfg' ev' time' idle' with h' | ⟨h', _⟩
  · exact h'
  · rw [h1] at h'; cases h'

/-! ## C09 protocol -/

def isSaslCmd (c : Bytes) : Bool :=
  c = cAUTHENTICATE || c = c902 || c = c903 || c = c904 || c = c905 || c = c906 || c = c907 || c = c908

theorem isSaslCmd_cases {c : Bytes} (h : isSaslCmd c = true) :
    c = cAUTHENTICATE ∨ c = c902 ∨ c = c903 ∨ c = c904 ∨ c = c905 ∨ c = c906 ∨ c = c907 ∨ c = c908 := by
  simpa [isSaslCmd, or_assoc] using h

/-- The commands `handleCommand` tests for before the SASL ones. -/
def stateCmds : List Bytes :=
  [cPING, c001, c433, c436, c437, cJOIN, cPART, cKICK, cQUIT, cNICK, c353, cMODE, c324, c352, c354, cTOPIC, c332,
   c004, c005, c375, c372, cCAP, cCHGHOST, cAWAY, cACCOUNT]

/-- What is left of `handleCommand` for every other command. -/
theorem handleCommand_late (cfg : Cfg) (cs : CState) (e : Event) (h : e.command ∉ stateCmds) :
    handleCommand cfg cs e =
      if cfg.disableTracking then .ok (cs, [])
      else if e.command = cAUTHENTICATE || e.command = c903 then .ok (handleSASL cfg cs e)
      else if e.command = c902 || e.command = c904 || e.command = c905 || e.command = c906 || e.command = c908 then
        .ok (cs, handleSASLError cfg e)
      else .ok (cs, []) := by
  simp only [stateCmds, List.mem_cons, List.not_mem_nil, or_false, not_or] at h
  simp only [handleCommand, h, decide_false, Bool.or_self, Bool.false_eq_true, if_false]

theorem saslCmd_late {c : Bytes} (h : isSaslCmd c = true) : c ∉ stateCmds := by
  rcases isSaslCmd_cases h with rfl | rfl | rfl | rfl | rfl | rfl | rfl | rfl <;> decide

theorem handleCommand_saslErr (cfg : Cfg) (cs : CState) (e : Event) (ht : cfg.disableTracking = false)
    (hc : e.command = c902 ∨ e.command = c904 ∨ e.command = c905 ∨ e.command = c906 ∨ e.command = c908) :
    handleCommand cfg cs e = .ok (cs, handleSASLError cfg e) := by
  have hs : isSaslCmd e.command = true := by rcases hc with h | h | h | h | h <;> rw [h] <;> rfl
  rw [handleCommand_late cfg cs e (saslCmd_late hs), ht]
  rcases hc with h | h | h | h | h <;> rw [h] <;> rfl

theorem handleCommand_auth (cfg : Cfg) (cs : CState) (e : Event) (ht : cfg.disableTracking = false)
    (hc : e.command = cAUTHENTICATE) : handleCommand cfg cs e = .ok (handleSASL cfg cs e) := by
  rw [handleCommand_late cfg cs e (by rw [hc]; decide), ht, hc]
  rfl

theorem handleSASL_auth (cfg : Cfg) (cs : CState) (e : Event) (m : SaslCfg) (hs : cfg.sasl = some m)
    (hc : e.command = cAUTHENTICATE) :
    handleSASL cfg cs e = ({ cs with saslCalls := cs.saslCalls + 1 },
      if (m.encode cs.saslCalls e.params).isEmpty then
        [Out.inject (errorEvent (sClosingSasl ++ m.method ++ sFailed ++ e.last))]
      else (saslChunks (m.encode cs.saslCalls e.params)).map fun c => Out.write { command := cAUTHENTICATE, params := [c] }) := by
  unfold handleSASL
  rw [hc, if_neg (by decide), hs]
  dsimp only
  split <;> rfl

/-- Any SASL failure numeric injects a local ERROR and writes nothing. -/
theorem sasl_failure_injects_error (cfg : Cfg) (cs : CState) (e : Event) (m : SaslCfg)
    (hs : cfg.sasl = some m) (ht : cfg.disableTracking = false)
    (hc : e.command = c902 ∨ e.command = c904 ∨ e.command = c905 ∨ e.command = c906 ∨ e.command = c908) :
    handleCommand cfg cs e = .ok (cs, [Out.inject (errorEvent (sClosing ++ e.last))]) := by
  rw [handleCommand_saslErr cfg cs e ht hc]
  simp only [handleSASLError, hs, Option.isNone_some, Bool.false_eq_true, if_false]

/-- Once authentication is in progress, CAP END is written only for the success numeric. -/
theorem sasl_end_only_on_success (cfg : Cfg) (cs : CState) (e : Event) (m : SaslCfg) (cs' : CState) (outs : List Out)
    (hs : cfg.sasl = some m) (hc : isSaslCmd e.command = true)
    (h : handleCommand cfg cs e = .ok (cs', outs)) (hend : Out.write capEnd ∈ outs) : e.command = c903 := by
  rw [handleCommand_late cfg cs e (saslCmd_late hc)] at h
  false_or_by_contra
  rename_i h903
  cases ht : cfg.disableTracking
  case true => rw [ht] at h; cases h; cases hend
  rw [ht, if_neg Bool.false_ne_true] at h
  split at h
  · -- AUTHENTICATE: chunks of the response, or a local ERROR
    next ha =>
    have ha : e.command = cAUTHENTICATE := by simpa [h903] using ha
    rw [handleSASL_auth cfg cs e m hs ha] at h
    cases h
    split at hend
    · simp only [List.mem_singleton, reduceCtorEq] at hend
    · obtain ⟨c, _, hc⟩ := List.mem_map.mp hend
      have : cAUTHENTICATE = cCAP :=
        congrArg (fun o => match o with | Out.write e => e.command | _ => []) hc
      exact absurd this (by decide)
  · split at h
    · cases h
      simp only [handleSASLError, hs, Option.isNone_some, Bool.false_eq_true, if_false, List.mem_singleton,
        reduceCtorEq] at hend
    · cases h; cases hend

theorem handleCommand_error (cfg : Cfg) (cs : CState) (e : Event) (hc : e.command = cERROR) :
    handleCommand cfg cs e = .ok (cs, []) := by
  rw [handleCommand_late cfg cs e (by rw [hc]; decide), hc]
  cases cfg.disableTracking <;> rfl

theorem saslErr_cmd_ne {c : Bytes} (hc : c = c902 ∨ c = c904 ∨ c = c905 ∨ c = c906 ∨ c = c908) :
    c ≠ PRIVMSG ∧ c ≠ NOTICE ∧ c ≠ cERROR := by
  rcases hc with h | h | h | h | h <;> subst h <;> decide

theorem stepEvent_of (cfg : Cfg) (r : Run) (e : Event) (cs' : CState) (outs : List Out) (isURL : Bytes → Bool)
    (h : handleEvent cfg r.cs e [] [] = .ok (cs', outs)) :
    stepEvent cfg r e [] [] isURL = .ok
      (if e.command = cERROR && (applyOuts cfg isURL { r with cs := cs' } outs).1.ended = .running
        then { (applyOuts cfg isURL { r with cs := cs' } outs).1 with ended := .errEvent e.last }
        else (applyOuts cfg isURL { r with cs := cs' } outs).1,
       (applyOuts cfg isURL { r with cs := cs' } outs).2) := by
  unfold stepEvent
  simp [h, bind, Except.bind]

/-- The injected ERROR ends the connection with `ErrEvent` carrying its text: a failure line makes
    `Connect` return an error instead of registering unauthenticated. -/
theorem sasl_failure_ends_connection (cfg : Cfg) (r : Run) (line : Bytes) (e : Event) (m : SaslCfg)
    (hr : r.ended = .running) (hp : parseEvent line = some e)
    (hs : cfg.sasl = some m) (ht : cfg.disableTracking = false)
    (hc : e.command = c902 ∨ e.command = c904 ∨ e.command = c905 ∨ e.command = c906 ∨ e.command = c908) :
    ∃ r', stepLine cfg r line = .ok r' ∧ r'.ended = .errEvent (sClosing ++ e.last) ∧ r'.written = r.written := by
  obtain ⟨h1, h2, h3⟩ := saslErr_cmd_ne hc
  have hE1 := stepEvent_of cfg r e _ _ (fun _ => true)
    (handleEvent_of_cmd cfg r.cs e [] [] h1 h2 _ _ (sasl_failure_injects_error cfg _ e m hs ht hc))
  simp only [applyOuts, h3, decide_false, Bool.false_and, Bool.false_eq_true, if_false, hr] at hE1
  have hE2 := stepEvent_of cfg { r with cs := tagged cfg r.cs e } (errorEvent (sClosing ++ e.last)) _ _ (fun _ => true)
    (handleEvent_of_cmd cfg _ _ [] [] (by show cERROR ≠ PRIVMSG; decide) (by show cERROR ≠ NOTICE; decide) _ _
      (handleCommand_error cfg _ _ rfl))
  have hl : (errorEvent (sClosing ++ e.last)).last = sClosing ++ e.last := rfl
  have hcmd : (errorEvent (sClosing ++ e.last)).command = cERROR := rfl
  simp only [applyOuts, hr, hl, hcmd, decide_true, Bool.and_self, if_true] at hE2
  have hL : stepLine cfg r line = .ok
      { cs := tagged cfg (tagged cfg r.cs e) (errorEvent (sClosing ++ e.last)), written := r.written,
        ended := Ended.errEvent (sClosing ++ e.last) } := by
    unfold stepLine
    simp only [hr, hp, ne_eq, not_true_eq_false, if_false]
    unfold stepAll
    simp only [hr, ne_eq, not_true_eq_false, if_false, hE1, bind, Except.bind, List.nil_append]
    unfold stepAll
    simp only [ne_eq, not_true_eq_false, if_false, hE2, bind, Except.bind, List.nil_append]
    unfold stepAll
    rfl
  exact ⟨_, hL, rfl, rfl⟩

/-- Non-interference of the logs in the secret: for a sensitive event nothing derived from the
    parameters reaches either writer, on the normal and on the dropped-event path. -/
theorem no_secret_logged (e : Event) (ps : List Bytes) (dropped echo : Bool) :
    debugLine true dropped e = debugLine true dropped { e with params := ps } ∧
    outLine true echo e = none := by
  simp [debugLine, outLine]

end Girc.Proofs.ProtocolA
