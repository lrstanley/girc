import Girc.Spec.Sim
import Girc.Proofs.InvBase
import Girc.Proofs.SimAMap
/-
  C04: the working form `SimW` of the simulation relation (`Sim` = `Inv` ∧ `SimW`) and the frame lemmas the
  handler proofs reduce to: a step that touches only scalars (`SimW.scalars`), one user record (`simW_putUser`),
  one privilege record (`simW_setPerms`) or one channel record (`simW_putChannel`) keeps `SimW`. The structural
  steps (new membership, memberships removed, a user re-keyed) are in SimJoin, SimLeave, SimNick.
-/
namespace Girc.Proofs.SimJoin
open Girc Girc.Model Girc.Spec Girc.Proofs.InvBase Girc.Proofs.SimAMap

/-- `Sim` without `inv`, plus `umembers` (membership seen from the user's channel list). Every clause
    looks at the maps of `st` through `AMap.get?` only. Intermediate states of JOIN / NAMES satisfy it. -/
structure SimW (st : St) (r : Ref) : Prop where
  nick : st.nick = r.me
  ident : st.ident = r.myIdent
  host : st.host = r.myHost
  motd : st.motd = r.motd
  maxLine : st.maxLineLength = r.maxLine
  maxPrefix : st.maxPrefixLength = r.maxPrefix
  opts : ∀ k, AMap.get? st.serverOptions k = AMap.get? r.options k
  chans : ∀ k, (AMap.get? st.channels k).map chanView = AMap.get? r.chans k
  chanModesWF : ∀ k ch, AMap.get? st.channels k = some ch → modesWF ch.modes
  users : ∀ n, (AMap.get? st.users n).map userView = AMap.get? r.users n
  members : ∀ k ch, AMap.get? st.channels k = some ch → ∀ n, n ∈ ch.users ↔ (k, n) ∈ r.members
  umembers : ∀ n u, AMap.get? st.users n = some u → ∀ k, k ∈ u.chans ↔ (k, n) ∈ r.members
  membersKnown : ∀ k n, (k, n) ∈ r.members → AMap.contains r.chans k = true ∧ AMap.contains r.users n = true
  membersNodup : r.members.Nodup
  perms : ∀ k n u, (k, n) ∈ r.members → AMap.get? st.users n = some u →
            (AMap.get? u.perms k).getD {} = r.getPerms k n
  permsKnown : ∀ p, p ∈ r.perms → AMap.contains r.users p.1.2 = true
  chanKeysNodup : (AMap.keys r.chans).Nodup
  userKeysNodup : (AMap.keys r.users).Nodup
  chanKeysNonempty : ∀ k, AMap.contains r.chans k = true → k ≠ []

theorem SimW.of_sim {st : St} {r : Ref} (h : Sim st r) : SimW st r := by
  have hL := h.inv.toInvL
  refine { h with umembers := ?_ }
  intro n u hu k
  constructor
  · intro hk
    obtain ⟨ch, hch, hn⟩ := hL.userToChan n u hu k hk
    exact (h.members k ch hch n).mp hn
  · intro hm
    obtain ⟨ch, hch⟩ := get?_of_known h.chans (h.membersKnown k n hm).1
    have hn : n ∈ ch.users := (h.members k ch hch n).mpr hm
    obtain ⟨u', hu', hk⟩ := hL.chanToUser k ch hch n hn
    rw [hu] at hu'; cases hu'; exact hk

theorem SimW.to_sim {st : St} {r : Ref} (h : SimW st r) (hi : Inv st) : Sim st r :=
  { h with inv := hi }

/-- Two implementation states that agree on everything `SimW` can see. -/
structure StEq (a b : St) : Prop where
  nick : a.nick = b.nick
  ident : a.ident = b.ident
  host : a.host = b.host
  motd : a.motd = b.motd
  maxLine : a.maxLineLength = b.maxLineLength
  maxPrefix : a.maxPrefixLength = b.maxPrefixLength
  opts : ∀ k, AMap.get? a.serverOptions k = AMap.get? b.serverOptions k
  chans : ∀ k, AMap.get? a.channels k = AMap.get? b.channels k
  users : ∀ k, AMap.get? a.users k = AMap.get? b.users k

theorem StEq.refl (a : St) : StEq a a :=
  ⟨rfl, rfl, rfl, rfl, rfl, rfl, fun _ => rfl, fun _ => rfl, fun _ => rfl⟩

theorem SimW.congr {a b : St} {r : Ref} (h : SimW a r) (e : StEq a b) : SimW b r :=
  { h with
    nick := e.nick.symm.trans h.nick
    ident := e.ident.symm.trans h.ident
    host := e.host.symm.trans h.host
    motd := e.motd.symm.trans h.motd
    maxLine := e.maxLine.symm.trans h.maxLine
    maxPrefix := e.maxPrefix.symm.trans h.maxPrefix
    opts := fun k => (e.opts k).symm.trans (h.opts k)
    chans := fun k => by rw [← e.chans k]; exact h.chans k
    chanModesWF := fun k ch hk => h.chanModesWF k ch (by rw [e.chans k]; exact hk)
    users := fun n => by rw [← e.users n]; exact h.users n
    members := fun k ch hk => h.members k ch (by rw [e.chans k]; exact hk)
    umembers := fun n u hu => h.umembers n u (by rw [e.users n]; exact hu)
    perms := fun k n u hm hu => h.perms k n u hm (by rw [e.users n]; exact hu) }

theorem StEq.of_users (st : St) {us us' : AMap User} (h : ∀ x, AMap.get? us x = AMap.get? us' x) :
    StEq { st with users := us } { st with users := us' } :=
  ⟨rfl, rfl, rfl, rfl, rfl, rfl, fun _ => rfl, fun _ => rfl, h⟩

theorem StEq.of_channels (st : St) {cs cs' : AMap Channel} (h : ∀ x, AMap.get? cs x = AMap.get? cs' x) :
    StEq { st with channels := cs } { st with channels := cs' } :=
  ⟨rfl, rfl, rfl, rfl, rfl, rfl, fun _ => rfl, h, fun _ => rfl⟩

theorem stEq_setUser_self {st : St} {n : Bytes} {u : User} (hu : AMap.get? st.users n = some u) :
    StEq st (setUser st n u) :=
  StEq.of_users st (get?_set_same hu)

theorem stEq_setChannel_self {st : St} {k : Bytes} {ch : Channel} (hc : AMap.get? st.channels k = some ch) :
    StEq st (setChannel st k ch) :=
  StEq.of_channels st (get?_set_same hc)

theorem contains_set_self {β : Type} (m : AMap β) (k : Bytes) (v : β) :
    AMap.contains (AMap.set m k v) k = true :=
  (contains_set m k k v).mpr (Or.inl rfl)

theorem isMe_iff {st : St} {r : Ref} (h : SimW st r) (cfg : Cfg) (x : Bytes) :
    r.isMe cfg x = true ↔ fold x = getID cfg st := by
  unfold Ref.isMe Ref.myNick getID getNick
  rw [h.nick]
  exact decide_eq_true_iff

theorem find?_replace (l : List ((Bytes × Bytes) × Perms)) (q x : Bytes × Bytes) (p : Perms) :
    (l.filter (·.1 != q) ++ [(q, p)]).find? (·.1 == x) =
      if x = q then some (q, p) else l.find? (·.1 == x) := by
  rw [List.find?_append, List.find?_filter]
  by_cases h : x = q
  · subst h
    rw [if_pos rfl, List.find?_eq_none.mpr fun a _ => by simp]
    simp
  · have hf : (fun a : (Bytes × Bytes) × Perms => decide ((a.1 != q) = true ∧ (a.1 == x) = true)) = fun a => a.1 == x :=
      funext fun a => by by_cases e : a.1 = x <;> simp [e, h]
    rw [if_neg h, hf, List.find?_singleton, if_neg (by simpa using fun e => h e.symm), Option.or_none]

theorem getPerms_setPerms (r : Ref) (c u x y : Bytes) (p : Perms) :
    (r.setPerms c u p).getPerms x y = if (x, y) = (c, u) then p else r.getPerms x y := by
  unfold Ref.getPerms Ref.setPerms
  dsimp only
  rw [find?_replace]
  split <;> rfl

theorem mem_perms_setPerms (r : Ref) (c u : Bytes) (q : Perms) (p : (Bytes × Bytes) × Perms)
    (h : p ∈ (r.setPerms c u q).perms) : p ∈ r.perms ∨ p.1 = (c, u) := by
  unfold Ref.setPerms at h
  rcases List.mem_append.mp h with h | h
  · exact Or.inl (List.mem_filter.mp h).1
  · rw [List.mem_singleton] at h; subst h; exact Or.inr rfl

theorem updUser_some {r : Ref} {key : Bytes} {u : RUser} (g : RUser → RUser) (h : AMap.get? r.users key = some u) :
    r.updUser key g = { r with users := AMap.set r.users key (g u) } := by
  unfold Ref.updUser; rw [h]

theorem updUser_none {r : Ref} {key : Bytes} (g : RUser → RUser) (h : AMap.get? r.users key = none) :
    r.updUser key g = r := by
  unfold Ref.updUser; rw [h]

theorem SimW.scalars {st : St} {r : Ref} (h : SimW st r) {n i ho mo : Bytes} {ml mp : Int} {so : AMap Bytes}
    {ec tc : AMap CapVal} {sts : Sts} {me mi mh rmo : Bytes} {rml rmp : Int} {ro : AMap Bytes}
    (hn : n = me) (hi : i = mi) (hh : ho = mh) (hmo : mo = rmo) (hml : ml = rml) (hmp : mp = rmp)
    (hso : ∀ k, AMap.get? so k = AMap.get? ro k) :
    SimW { st with nick := n, ident := i, host := ho, motd := mo, maxLineLength := ml, maxPrefixLength := mp,
                   serverOptions := so, enabledCap := ec, tmpCap := tc, sts := sts }
      { r with me := me, myIdent := mi, myHost := mh, motd := rmo, maxLine := rml, maxPrefix := rmp, options := ro } :=
  { h with nick := hn, ident := hi, host := hh, motd := hmo, maxLine := hml, maxPrefix := hmp, opts := hso }

/-- Covers both a new record and the replacement of a stored one: nothing is asked about the old entry. -/
theorem simW_putUser {st : St} {r : Ref} (h : SimW st r) (n : Bytes) (u' : User)
    (hum : ∀ k, k ∈ u'.chans ↔ (k, n) ∈ r.members)
    (hp : ∀ k, (k, n) ∈ r.members → (AMap.get? u'.perms k).getD {} = r.getPerms k n) :
    SimW (setUser st n u') { r with users := AMap.set r.users n (userView u') } :=
  { h with
    users := view_set h.users n u'
    umembers := fun y v hy x => by
      rcases get?_set_some hy with ⟨rfl, rfl⟩ | ⟨_, hy⟩
      · exact hum x
      · exact h.umembers y v hy x
    membersKnown := fun x y hm =>
      ⟨(h.membersKnown x y hm).1, contains_set_of_contains _ _ _ (h.membersKnown x y hm).2⟩
    perms := fun x y v hm hv => by
      rcases get?_set_some hv with ⟨rfl, rfl⟩ | ⟨_, hv⟩
      · exact hp x hm
      · exact h.perms x y v hm hv
    permsKnown := fun p hp => contains_set_of_contains _ _ _ (h.permsKnown p hp)
    userKeysNodup := keys_set_nodup h.userKeysNodup _ _ }

theorem simW_updUser {st : St} {r : Ref} (h : SimW st r) {n : Bytes} {u u' : User} (f : RUser → RUser)
    (hu : AMap.get? st.users n = some u) (hchans : u'.chans = u.chans) (hperms : u'.perms = u.perms)
    (hview : userView u' = f (userView u)) :
    SimW (setUser st n u') (r.updUser n f) := by
  rw [updUser_some f (known_of_get? h.users hu), ← hview]
  exact simW_putUser h n u' (fun k => hchans ▸ h.umembers n u hu k) fun k hm => hperms ▸ h.perms k n u hm hu

theorem simW_updUser_fold {st : St} {r : Ref} (h : SimW st r) (name : Bytes) (f : User → User) (g : RUser → RUser)
    (hv : ∀ u, userView (f u) = g (userView u)) (hf : ∀ u, (f u).chans = u.chans ∧ (f u).perms = u.perms) :
    SimW (Model.updUser st name f) (r.updUser (fold name) g) := by
  unfold Model.updUser
  cases hl : st.lookupUser name with
  | none => rw [updUser_none g (by rw [← h.users, show AMap.get? st.users (fold name) = none from hl]; rfl)]; exact h
  | some u => exact simW_updUser h g hl (hf u).1 (hf u).2 (hv u)

theorem simW_setPerms {st : St} {r : Ref} (h : SimW st r) {n : Bytes} {u : User} (k : Bytes) (p1 p2 : Perms)
    (hu : AMap.get? st.users n = some u) (hp : (k, n) ∈ r.members → p1 = p2) :
    SimW (setUser st n { u with perms := AMap.set u.perms k p1 }) (r.setPerms k n p2) :=
  { h with
    users := view_set_left h.users hu rfl
    umembers := fun y v hy x => by
      rcases get?_set_some hy with ⟨rfl, rfl⟩ | ⟨_, hy⟩
      · exact h.umembers y u hu x
      · exact h.umembers y v hy x
    perms := fun x y v hm hv => by
      have hm' : (x, y) ∈ r.members := hm
      rw [getPerms_setPerms]
      rcases get?_set_some hv with ⟨rfl, rfl⟩ | ⟨ey, hv⟩
      · show (AMap.get? (AMap.set u.perms k p1) x).getD {} = _
        rw [get?_set]
        by_cases ex : x = k
        · subst ex; rw [if_pos rfl, if_pos rfl]; exact hp hm'
        · rw [if_neg ex, if_neg fun e => ex (Prod.mk.inj e).1]
          exact h.perms x y u hm' hu
      · rw [if_neg fun e => ey (Prod.mk.inj e).2]
        exact h.perms x y v hm' hv
    permsKnown := fun q hq => by
      show AMap.contains r.users q.1.2 = true
      rcases mem_perms_setPerms r k n p2 q hq with hq | e
      · exact h.permsKnown q hq
      · rw [e]; exact contains_of_view h.users hu }

theorem simW_putChannel {st : St} {r : Ref} (h : SimW st r) (k : Bytes) (ch' : Channel) (hk : k ≠ [])
    (hu : ∀ n, n ∈ ch'.users ↔ (k, n) ∈ r.members) (hwf : modesWF ch'.modes) :
    SimW (setChannel st k ch') { r with chans := AMap.set r.chans k (chanView ch') } :=
  { h with
    chans := view_set h.chans k ch'
    chanModesWF := fun x c hx => by
      rcases get?_set_some hx with ⟨_, rfl⟩ | ⟨_, hx⟩
      · exact hwf
      · exact h.chanModesWF x c hx
    members := fun x c hx n => by
      rcases get?_set_some hx with ⟨rfl, rfl⟩ | ⟨_, hx⟩
      · exact hu n
      · exact h.members x c hx n
    membersKnown := fun x n hm =>
      ⟨contains_set_of_contains _ _ _ (h.membersKnown x n hm).1, (h.membersKnown x n hm).2⟩
    chanKeysNodup := keys_set_nodup h.chanKeysNodup _ _
    chanKeysNonempty := fun x hx => by
      rcases (contains_set _ _ _ _).mp hx with rfl | hx
      · exact hk
      · exact h.chanKeysNonempty x hx }

theorem simW_setChannel {st : St} {r : Ref} (h : SimW st r) {k : Bytes} {ch ch' : Channel}
    (hc : AMap.get? st.channels k = some ch) (hu : ch'.users = ch.users) (hwf : modesWF ch'.modes) :
    SimW (setChannel st k ch') { r with chans := AMap.set r.chans k (chanView ch') } :=
  simW_putChannel h k ch' (h.chanKeysNonempty k (contains_of_view h.chans hc)) (fun n => hu ▸ h.members k ch hc n) hwf

end Girc.Proofs.SimJoin
