import Girc.Spec.Grammar
import Girc.Proofs.ParseSections
import Girc.Proofs.ParseTags
/-
  C02 conformance. A rendered grammar line is, up to `render_shape`, of the section shape that
  `ParseSections.parseEvent_sections` reads; what `wfLine` says of the parse tree gives the facts that lemma
  asks of the sections, and each section is read back to what the grammar assigns (`meaning`).
-/
namespace Girc.Proofs.ParseRender
open Girc Girc.Model Girc.Spec
open Girc.Proofs.ParseLemmas Girc.Proofs.ParseParams Girc.Proofs.ParseSections Girc.Proofs.ParseTags Girc.Proofs.BytesLemmas

/-- What the parser needs of a command token. -/
structure CmdOK (c : Bytes) : Prop where
  ne : c ≠ []
  sp : SP ∉ c
  at_ : c.head? ≠ some AT
  col : c.head? ≠ some COLON
  crlf : NoCRLF c

theorem cmdOK_of_all (c : Bytes) (f : Byte → Bool) (hne : c ≠ []) (hall : c.all f = true)
    (hsp : f SP = false) (hat : f AT = false) (hcol : f COLON = false) (hcr : f CR = false)
    (hlf : f LF = false) : CmdOK c :=
  ⟨hne, not_mem_of_all hall hsp, fun hh => not_mem_of_all hall hat (List.mem_of_mem_head? hh),
    fun hh => not_mem_of_all hall hcol (List.mem_of_mem_head? hh), .of_all hall hcr hlf⟩

theorem wfCommand_alnum (c : Bytes) (h : wfCommand c = true) :
    2 ≤ c.length ∧ c.all (fun b => isAsciiLetter b || isAsciiDigit b) = true := by
  simp only [wfCommand, Bool.or_eq_true, Bool.and_eq_true, decide_eq_true_eq, List.all_eq_true] at h ⊢
  rcases h with ⟨hl, ha⟩ | ⟨hl, ha⟩
  · exact ⟨hl, fun b hb => .inl (ha b hb)⟩
  · exact ⟨by omega, fun b hb => .inr (ha b hb)⟩

theorem wfCommand_ok (c : Bytes) (h : wfCommand c = true) : CmdOK c ∧ 2 ≤ c.length := by
  obtain ⟨hl, ha⟩ := wfCommand_alnum c h
  have hne : c ≠ [] := by intro e; subst e; simp at hl
  exact ⟨cmdOK_of_all c _ hne ha (by decide) (by decide) (by decide) (by decide) (by decide), hl⟩

theorem wfMiddle_ok (t : Bytes) (h : wfMiddle t = true) : WkMid t ∧ NoCRLF t := by
  simp only [wfMiddle, Bool.and_eq_true, Bool.not_eq_true', bne_iff_ne, ne_eq] at h
  obtain ⟨⟨hne, hall⟩, hhead⟩ := h
  exact ⟨⟨fun e => by subst e; simp at hne, not_mem_of_all hall (by decide), hhead⟩,
    .of_all hall (by decide) (by decide)⟩

theorem wfPrefixPart_ok (s : Bytes) (h : wfPrefixPart s = true) :
    s ≠ [] ∧ SP ∉ s ∧ BANG ∉ s ∧ AT ∉ s ∧ NoCRLF s := by
  simp only [wfPrefixPart, Bool.and_eq_true, Bool.not_eq_true'] at h
  obtain ⟨hne, hall⟩ := h
  exact ⟨fun e => by subst e; simp at hne, not_mem_of_all hall (by decide), not_mem_of_all hall (by decide),
    not_mem_of_all hall (by decide), .of_all hall (by decide) (by decide)⟩

theorem wfTagValue_ok (v : Bytes) (h : wfTagValue v = true) :
    SP ∉ v ∧ (0x3B : Byte) ∉ v ∧ NoCRLF v := by
  simp only [wfTagValue, Bool.and_eq_true] at h
  exact ⟨not_mem_of_all h.1 (by decide), not_mem_of_all h.1 (by decide), .of_all h.1 (by decide) (by decide)⟩

theorem validTag_noCRLF (k : Bytes) (h : validTag k = true) : NoCRLF k :=
  .of_not_mem (validTag_no_cr k h) (validTag_no_lf k h)

/-- What holds of the keys, the values, "=" and ";" and is kept by appending holds of the tag section. -/
theorem tagSection_pred {P : Bytes → Prop} (hnil : P []) (happ : ∀ a b, P a → P b → P (a ++ b))
    (heq : P [0x3D]) (hsemi : P [0x3B]) (ts : List (Bytes × Option Bytes))
    (h : ∀ x ∈ ts, P x.1 ∧ ∀ v, x.2 = some v → P v) : P (joinWith [0x3B] (ts.map renderTag)) := by
  refine joinWith_pred hnil happ hsemi fun it hit => ?_
  obtain ⟨⟨k, ov⟩, hx, rfl⟩ := List.mem_map.mp hit
  cases ov with
  | none => exact (h _ hx).1
  | some v => exact happ _ _ (happ _ _ (h _ hx).1 heq) ((h _ hx).2 v rfl)

theorem tagSection_ne_nil (ts : List (Bytes × Option Bytes)) (hne : ts ≠ [])
    (h : ∀ x ∈ ts, validTag x.1 = true) : joinWith [0x3B] (ts.map renderTag) ≠ [] := by
  cases ts with
  | nil => exact absurd rfl hne
  | cons x ts => exact joinWith_ne_nil _ _ _ (renderTag_head x (h x List.mem_cons_self)).1

theorem wfTag_ok (x : Bytes × Option Bytes) (h : wfTag x = true) :
    validTag x.1 = true ∧ ∀ v, x.2 = some v → wfTagValue v = true := by
  simpa only [wfTag, Bool.and_eq_true, Option.all_eq_true] using h

theorem forall_map_some {α β : Type} {o : Option α} {f : α → β} {P : β → Prop} :
    (∀ s, o.map f = some s → P s) ↔ ∀ x, o = some x → P (f x) := by
  cases o <;> simp

/-- The tag section of a rendered line. -/
def tagSecOf (tags : Option (List (Bytes × Option Bytes))) : Option Bytes :=
  tags.map fun ts => joinWith [0x3B] (ts.map renderTag)

theorem tagSecOf_ok (tags : Option (List (Bytes × Option Bytes)))
    (h : ∀ ts, tags = some ts → ts ≠ [] ∧ ∀ x ∈ ts, wfTag x = true) :
    ∀ s, tagSecOf tags = some s → (s ≠ [] ∧ SP ∉ s) ∧ NoCRLF s := forall_map_some.mpr fun ts hts => by
  have hk := fun x hx => wfTag_ok x ((h ts hts).2 x hx)
  refine ⟨⟨tagSection_ne_nil ts (h ts hts).1 fun x hx => (hk x hx).1, ?_⟩, ?_⟩
  · exact tagSection_pred (P := (SP ∉ ·)) List.not_mem_nil not_mem_append (by decide) (by decide) ts
      fun x hx => ⟨validTag_no_sp _ (hk x hx).1, fun v hv => (wfTagValue_ok v ((hk x hx).2 v hv)).1⟩
  · exact tagSection_pred NoCRLF.nil (fun _ _ => NoCRLF.append) (.cons (by decide) .nil) (.cons (by decide) .nil) ts
      fun x hx => ⟨validTag_noCRLF _ (hk x hx).1, fun v hv => (wfTagValue_ok v ((hk x hx).2 v hv)).2.2⟩

theorem wfPrefix_parts (p : Prefix) (h : wfPrefix p = true) :
    wfPrefixPart p.name = true ∧ (∀ i, p.ident = some i → wfPrefixPart i = true) ∧
      (∀ h, p.host = some h → wfPrefixPart h = true) := by
  simpa only [wfPrefix, Bool.and_eq_true, Option.all_eq_true, and_assoc] using h

/-- `lead :: s` if present. -/
def optPart (lead : Byte) : Option Bytes → Bytes
  | some i => lead :: i
  | none => []

theorem renderPrefix_eq (p : Prefix) :
    renderPrefix p = p.name ++ optPart BANG p.ident ++ optPart AT p.host := by
  obtain ⟨name, oi, oh⟩ := p
  cases oi <;> cases oh <;> rfl

theorem optPart_ok (lead : Byte) (hl : SP ≠ lead) (hc : isCRLF lead = false) (o : Option Bytes)
    (h : ∀ i, o = some i → wfPrefixPart i = true) :
    SP ∉ optPart lead o ∧ NoCRLF (optPart lead o) := by
  cases o with
  | none => exact ⟨by simp [optPart], NoCRLF.nil⟩
  | some i =>
    obtain ⟨_, i2, _, _, i5⟩ := wfPrefixPart_ok i (h i rfl)
    exact ⟨by simp [optPart, i2, hl], NoCRLF.cons hc i5⟩

theorem renderPrefix_ok (p : Prefix) (h : wfPrefix p = true) :
    (renderPrefix p ≠ [] ∧ SP ∉ renderPrefix p) ∧ NoCRLF (renderPrefix p) := by
  obtain ⟨hn, hi, hh⟩ := wfPrefix_parts p h
  obtain ⟨n1, n2, _, _, n5⟩ := wfPrefixPart_ok p.name hn
  have hI := optPart_ok BANG (by decide) (by decide) p.ident hi
  have hH := optPart_ok AT (by decide) (by decide) p.host hh
  rw [renderPrefix_eq]
  exact ⟨⟨by simp [n1], not_mem_append _ _ (not_mem_append _ _ n2 hI.1) hH.1⟩, (n5.append hI.2).append hH.2⟩

theorem parseSource_renderPrefix_wf (p : Prefix) (h : wfPrefix p = true) :
    parseSource (renderPrefix p) = meaningSource p := by
  obtain ⟨hn, hi, hh⟩ := wfPrefix_parts p h
  obtain ⟨n1, _, n3, n4, _⟩ := wfPrefixPart_ok p.name hn
  apply parseSource_renderPrefix p n1 n3 n4
  · intro i hi'
    obtain ⟨_, _, i3, i4, _⟩ := wfPrefixPart_ok i (hi i hi')
    exact ⟨i3, i4⟩
  · intro i hi'
    obtain ⟨_, _, i3, _, _⟩ := wfPrefixPart_ok i (hh i hi')
    exact i3

theorem sp_noCRLF : isCRLF SP = false := by decide

theorem spaces_noCRLF (n : Nat) : NoCRLF (spaces n) := by
  intro b hb
  rw [(List.mem_replicate.mp hb).2]; exact sp_noCRLF

theorem renderMiddles_noCRLF : ∀ (ms : List (Nat × Bytes)), (∀ m ∈ ms, NoCRLF m.2) →
    NoCRLF (renderMiddles ms)
  | [], _ => NoCRLF.nil
  | (k, tok) :: ms, h =>
    ((spaces_noCRLF k).append (h (k, tok) List.mem_cons_self)).append
      (renderMiddles_noCRLF ms (fun m hm => h m (List.mem_cons_of_mem _ hm)))

theorem trPart_noCRLF (tr : Option (Nat × Bytes)) (h : ∀ n t, tr = some (n, t) → NoCRLF t) :
    NoCRLF (trPart tr) := by
  rcases tr with _ | ⟨n, t⟩
  · exact NoCRLF.nil
  · exact (spaces_noCRLF n).append (NoCRLF.cons (by decide) (h n t rfl))

theorem secPart_noCRLF (lead : Byte) (hl : isCRLF lead = false) (sec : Option Bytes)
    (h : ∀ s, sec = some s → NoCRLF s) : NoCRLF (secPart lead sec) := by
  cases sec with
  | none => exact NoCRLF.nil
  | some s => exact NoCRLF.cons hl ((h s rfl).append (NoCRLF.cons sp_noCRLF NoCRLF.nil))

/-- The line ending. -/
def endingBytes : Nat → Bytes
  | 0 => []
  | 1 => [LF]
  | _ => [CR, LF]

theorem endingBytes_crlf (n : Nat) : ∀ b ∈ endingBytes n, isCRLF b = true :=
  List.all_eq_true.mp <| match n with
    | 0 => rfl
    | 1 => rfl
    | _ + 2 => rfl

theorem render_shape (l : Line) : render l =
    (secPart AT (tagSecOf l.tags) ++ (secPart COLON (l.pfx.map renderPrefix) ++
      (l.command ++ (renderMiddles l.middles ++ trPart l.trailing)))) ++ endingBytes l.ending := by
  have e : render l = secPart AT (tagSecOf l.tags) ++ secPart COLON (l.pfx.map renderPrefix) ++ l.command ++
      renderMiddles l.middles ++ trPart l.trailing ++ endingBytes l.ending := by
    unfold render
    congr 5
    · cases l.tags <;> rfl
    · cases l.pfx <;> rfl
  rw [e]
  simp only [List.append_assoc]

/-- Every grammatical line parses to exactly the structure the grammar assigns. -/
theorem parse_render (l : Line) (h : wfLine l = true) : parseEvent (render l) = some (meaning l) := by
  obtain ⟨tags, pfx, cmd, ms, tr, ending⟩ := l
  simp only [wfLine, Bool.and_eq_true, decide_eq_true_eq, Option.all_eq_true, List.all_eq_true] at h
  obtain ⟨⟨⟨⟨⟨⟨htags, hpfx'⟩, hcmd⟩, hmid⟩, _⟩, htr⟩, hend⟩ := h
  have htags' : ∀ ts, tags = some ts → ts ≠ [] ∧ ∀ x ∈ ts, wfTag x = true := by
    intro ts hts; subst hts
    simpa [List.isEmpty_eq_false_iff] using htags
  have htagSec := tagSecOf_ok tags htags'
  have hsrcSec : ∀ s, pfx.map renderPrefix = some s → (s ≠ [] ∧ SP ∉ s) ∧ NoCRLF s :=
    forall_map_some.mpr fun p hp => renderPrefix_ok p (hpfx' p hp)
  obtain ⟨hcmdOK, hcmdLen⟩ := wfCommand_ok cmd hcmd
  have hms : ∀ m ∈ ms, WkMid m.2 ∧ NoCRLF m.2 := fun m hm => wfMiddle_ok m.2 (hmid m hm)
  have hPsp : SpLead (renderMiddles ms ++ trPart tr) := spLead_renderMiddles_append ms _ (spLead_trPart tr)
  have hPcrlf : NoCRLF (renderMiddles ms ++ trPart tr) :=
    (renderMiddles_noCRLF ms (fun m hm => (hms m hm).2)).append
      (trPart_noCRLF tr fun n t e => by subst e; exact NoCRLF.of_all htr (by decide) (by decide))
  have hbody := (secPart_noCRLF AT (by decide) _ (fun s hs => (htagSec s hs).2)).append
    ((secPart_noCRLF COLON (by decide) _ (fun s hs => (hsrcSec s hs).2)).append (hcmdOK.crlf.append hPcrlf))
  have htrim := trimCRLF_append _ _ hbody (endingBytes_crlf ending)
  rw [← render_shape ⟨tags, pfx, cmd, ms, tr, ending⟩] at htrim
  have hlen : 2 ≤ (trimCRLF (render ⟨tags, pfx, cmd, ms, tr, ending⟩)).length := by
    rw [htrim]; simp only [List.length_append]; omega
  rw [parseEvent_sections _ _ _ cmd _ htrim hlen
    (fun s hs => (htagSec s hs).1) (fun s hs => (hsrcSec s hs).1)
    hcmdOK.ne hcmdOK.sp hcmdOK.at_ hcmdOK.col hPsp]
  have e1 : (tagSecOf tags).map parseTags = tags.map meaningTags := by
    cases tags with
    | none => rfl
    | some ts =>
      obtain ⟨hne, hall⟩ := htags' ts rfl
      exact congrArg some (parseTags_render ts hne (fun x hx => (wfTag_ok x (hall x hx)).1)
        (fun x hx v hv => (wfTagValue_ok v ((wfTag_ok x (hall x hx)).2 v hv)).2.1))
  have e2 : (pfx.map renderPrefix).map parseSource = pfx.map meaningSource := by
    cases pfx with
    | none => rfl
    | some p => exact congrArg some (parseSource_renderPrefix_wf p (hpfx' p rfl))
  rw [e1, e2, parseParams_render tr ms (fun m hm => (hms m hm).1)]
  rcases tr with _ | ⟨n, t⟩ <;> simp [meaning, trList]

end Girc.Proofs.ParseRender
