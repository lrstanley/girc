import Girc.Proofs.InvHandlers
import Girc.Proofs.ProtocolBAux
import Girc.Proofs.SimBase
/-
  C04: messages that change attributes only (no membership change); `st`/`r` are the states AFTER the
  account-tag step. Here and in the other handler modules the branch of `Ref.cmdStep` / `Ref.conformant` / the
  handler is reached by taking the event apart and replacing the command by its literal: the chains of tests
  then evaluate, so `exact` against a lemma about the branch, or `show … (if c then _ else _)` to expose one
  test, is a definitional unfolding.
-/
namespace Girc.Proofs.SimAttr
open Girc Girc.Model Girc.Spec
open Girc.Proofs.InvBase Girc.Proofs.InvHandlers Girc.Proofs.SimAMap Girc.Proofs.SimJoin

/-- The commands `Ref.cmdStep` interprets. -/
def interpreted : List Bytes :=
  [c001, cJOIN, cPART, cKICK, cQUIT, cNICK, c353, cMODE, c324, c354, c352, cTOPIC, c332,
    cAWAY, cACCOUNT, cCHGHOST, c004, c005, c375, c372]

theorem cmdStep_other (cfg : Cfg) (r : Ref) (e : Event) (h : e.command ∉ interpreted) : r.cmdStep cfg e = r := by
  simp only [interpreted, List.mem_cons, List.not_mem_nil, or_false, not_or] at h
  obtain ⟨h1, h2, h3, h4, h5, h6, h7, h8, h9, h10, h11, h12, h13, h14, h15, h16, h17, h18, h19, h20⟩ := h
  unfold Ref.cmdStep
  dsimp only
  rw [if_neg h1, if_neg h2, if_neg h3, if_neg h4, if_neg h5, if_neg h6, if_neg h7,
    if_neg (by simp [h8, h9]), if_neg h10, if_neg h11, if_neg (by simp [h12, h13]), if_neg h14, if_neg h15,
    if_neg h16, if_neg h17, if_neg h18, if_neg h19, if_neg h20]

theorem sim_connect {st : St} {r : Ref} (cfg : Cfg) (e : Event) (h : SimW st r) (hcmd : e.command = c001) :
    SimW (handleConnect st e) (r.cmdStep cfg e) := by
  obtain ⟨t, s, c, p⟩ := e
  subst hcmd
  conv => arg 2; whnf
  cases p with
  | nil => exact h
  | cons p rest => exact h.scalars rfl h.ident h.host h.motd h.maxLine h.maxPrefix h.opts

theorem sim_MYINFO {st : St} {r : Ref} (cfg : Cfg) (e : Event) (h : SimW st r) (hcmd : e.command = c004) :
    ∃ st', handleMYINFO st e = .ok st' ∧ SimW st' (r.cmdStep cfg e) := by
  obtain ⟨t, s, c, p⟩ := e
  subst hcmd
  conv => enter [1, st', 2, 2]; whnf
  rcases p with _ | ⟨x, _ | ⟨a, _ | ⟨b, rest⟩⟩⟩
  iterate 3 exact ⟨st, rfl, h⟩
  exact ⟨_, rfl, h.scalars h.nick h.ident h.host h.motd h.maxLine h.maxPrefix fun k => by
    simp only [get?_set, h.opts]⟩

theorem sim_MOTD {st : St} {r : Ref} (cfg : Cfg) (e : Event) (h : SimW st r)
    (hcmd : e.command = c375 ∨ e.command = c372) :
    SimW (handleMOTD st e) (r.cmdStep cfg e) := by
  obtain ⟨t, s, c, p⟩ := e
  rcases hcmd with rfl | rfl <;> conv => arg 2; whnf
  · exact h.scalars h.nick h.ident h.host rfl h.maxLine h.maxPrefix h.opts
  · exact h.scalars h.nick h.ident h.host (by rw [h.motd]; rfl) h.maxLine h.maxPrefix h.opts

/-- The limits `handleISUPPORT` derives from the numeric options. -/
def isupLimits (line nick maxnick user host : Option Int) (ml mp : Int) : Int × Int :=
  let r1 : Int × Int := match line with
    | some t => (t - 2, t)
    | none => (ml, ml)
  let maxNick : Int := match nick with | some t => t | none => 30
  let maxNick := match maxnick with | some t => if t > maxNick then t else maxNick | none => maxNick
  let maxUser : Int := match user with | some t => if t > 18 then t else 18 | none => 18
  let maxHost : Int := match host with | some t => if t > 63 then t else 63 | none => 63
  let prefixLen := 4 + maxNick + maxUser + maxHost
  (r1.1, if prefixLen ≥ r1.2 then mp else prefixLen)

def isupOpts (opts : AMap Bytes) (e : Event) : AMap Bytes := ((e.params.drop 1).dropLast).foldl isupportItem opts

def optI (o : AMap Bytes) (k : Bytes) : Option Int := (AMap.get? o k).bind atoi

theorem ite_push {α β : Type} {c : Prop} {inst : Decidable c} (a b : α) (f : β → α) (x y : β)
    (ha : a = f x) (hb : b = f y) : @ite α c inst a b = f (@ite β c inst x y) := by
  cases inst with
  | isTrue h => exact ha
  | isFalse h => exact hb

theorem handleISUPPORT_eq (st : St) (e : Event) :
    handleISUPPORT st e =
      if !isSuffixOfB sThisServer e.last then st
      else if e.params.length < 2 then st
      else
        let o := isupOpts st.serverOptions e
        let l := isupLimits (optI o sLINELEN) (optI o sNICKLEN) (optI o sMAXNICKLEN) (optI o sUSERLEN) (optI o sHOSTLEN)
          st.maxLineLength st.maxPrefixLength
        { st with serverOptions := o, maxLineLength := l.1, maxPrefixLength := l.2 } := by
  unfold handleISUPPORT
  by_cases h1 : (!isSuffixOfB sThisServer e.last) = true
  · rw [if_pos h1, if_pos h1]
  rw [if_neg h1, if_neg h1]
  by_cases h2 : e.params.length < 2
  · rw [if_pos h2, if_pos h2]
  rw [if_neg h2, if_neg h2]
  extract_lets items st1 maxLine o l
  have hoi : ∀ k, optInt st1 k = optI o k := fun _ => rfl
  have hml : maxLine = st.maxLineLength := rfl
  unfold l isupLimits
  rw [hoi sLINELEN]
  cases optI o sLINELEN with
  | none =>
    dsimp only
    simp only [hoi, hml]
    exact ite_push _ _ (fun p => { st with serverOptions := o, maxLineLength := st.maxLineLength, maxPrefixLength := p })
      _ _ rfl rfl
  | some t =>
    dsimp only
    have hoi' : ∀ k, optInt { st1 with maxLineLength := t - 2 } k = optI o k := fun _ => rfl
    simp only [hoi']
    exact ite_push _ _ (fun p => { st with serverOptions := o, maxLineLength := t - 2, maxPrefixLength := p })
      _ _ rfl rfl

theorem isupportItem_congr {a b : AMap Bytes} (h : ∀ k, AMap.get? a k = AMap.get? b k) (p : Bytes) :
    ∀ k, AMap.get? (isupportItem a p) k = AMap.get? (isupportItem b p) k := by
  intro k
  unfold isupportItem
  split
  · split <;> simp only [get?_set, h]
  · simp only [get?_set, h]

theorem isupOpts_congr (e : Event) : ∀ {a b : AMap Bytes}, (∀ k, AMap.get? a k = AMap.get? b k) →
    ∀ k, AMap.get? (isupOpts a e) k = AMap.get? (isupOpts b e) k := by
  unfold isupOpts
  induction (e.params.drop 1).dropLast with
  | nil => intro a b h; exact h
  | cons p items ih => intro a b h; exact ih (isupportItem_congr h p)

theorem optI_congr {a b : AMap Bytes} (h : ∀ k, AMap.get? a k = AMap.get? b k) (k : Bytes) : optI a k = optI b k := by
  unfold optI; rw [h]

theorem simW_isupport_ref {st : St} {r : Ref} (h : SimW st r) (e : Event) :
    SimW (handleISUPPORT st e)
      (let st' := handleISUPPORT { serverOptions := r.options, maxLineLength := r.maxLine, maxPrefixLength := r.maxPrefix } e
       { r with options := st'.serverOptions, maxLine := st'.maxLineLength, maxPrefix := st'.maxPrefixLength }) := by
  dsimp only
  rw [handleISUPPORT_eq, handleISUPPORT_eq]
  by_cases h1 : (!isSuffixOfB sThisServer e.last) = true
  · rw [if_pos h1, if_pos h1]; exact h
  rw [if_neg h1, if_neg h1]
  by_cases h2 : e.params.length < 2
  · rw [if_pos h2, if_pos h2]; exact h
  rw [if_neg h2, if_neg h2]
  have ho := isupOpts_congr e h.opts
  have hI := optI_congr ho
  refine h.scalars h.nick h.ident h.host h.motd ?_ ?_ ho
  · dsimp only
    rw [hI, hI, hI, hI, hI, h.maxLine, h.maxPrefix]
  · dsimp only
    rw [hI, hI, hI, hI, hI, h.maxLine, h.maxPrefix]

theorem sim_ISUPPORT {st : St} {r : Ref} (cfg : Cfg) (e : Event) (h : SimW st r) (hcmd : e.command = c005) :
    SimW (handleISUPPORT st e) (r.cmdStep cfg e) := by
  obtain ⟨t, s, c, p⟩ := e
  subst hcmd
  exact simW_isupport_ref h _

theorem sim_CAP {st : St} {r : Ref} (cfg : Cfg) (e : Event) (h : SimW st r) (hcmd : e.command = cCAP) :
    SimW (handleCAP cfg st e).1 (r.cmdStep cfg e) := by
  rw [cmdStep_other cfg r e (by rw [hcmd]; decide), handleCAP_frame cfg st e]
  exact h.scalars h.nick h.ident h.host h.motd h.maxLine h.maxPrefix h.opts

theorem sim_TOPIC {st : St} {r : Ref} (cfg : Cfg) (e : Event) (h : SimW st r)
    (hcmd : e.command = cTOPIC ∨ e.command = c332) :
    ∃ st', handleTOPIC st e = .ok st' ∧ SimW st' (r.cmdStep cfg e) := by
  have tail : ∀ n t : Bytes, ∃ st', (match st.lookupChannel n with
        | none => (Except.ok st : M St)
        | some ch => .ok (setChannel st (fold n) { ch with topic := t })) = .ok st' ∧
      SimW st' (match AMap.get? r.chans (fold n) with
        | some ch => { r with chans := AMap.set r.chans (fold n) { ch with topic := t } }
        | none => r) := by
    intro n t
    cases hl : st.lookupChannel n with
    | none => rw [view_none h.chans hl]; exact ⟨st, rfl, h⟩
    | some ch =>
      rw [known_of_get? h.chans hl]
      exact ⟨_, rfl, simW_setChannel h hl rfl (h.chanModesWF _ ch hl)⟩
  obtain ⟨tags, source, command, params⟩ := e
  rcases hcmd with rfl | rfl <;> conv => enter [1, st', 2, 2]; whnf
  all_goals rcases params with _ | ⟨n, _ | ⟨t, _ | ⟨x, rest⟩⟩⟩
  · exact ⟨st, rfl, h⟩
  · exact tail n []
  · exact tail n t
  · exact tail t _
  · exact ⟨st, rfl, h⟩
  · exact tail n []
  · exact tail n t
  · exact tail t _

/-- A handler that ends in "look the user up, store an updated record": an attribute update. -/
theorem sim_updUser_tail {st : St} {r : Ref} (h : SimW st r) (nick : Bytes) (f : User → User) (g : RUser → RUser)
    (hv : ∀ u, userView (f u) = g (userView u)) (hf : ∀ u, (f u).chans = u.chans ∧ (f u).perms = u.perms) :
    ∃ st', (match st.lookupUser nick with
            | none => (Except.ok st : M St)
            | some user => .ok (setUser st (fold nick) (f user))) = .ok st' ∧
      SimW st' (r.updUser (fold nick) g) := by
  have hs := simW_updUser_fold h nick f g hv hf
  unfold Model.updUser at hs
  cases hl : st.lookupUser nick with
  | none => rw [hl] at hs; exact ⟨_, rfl, hs⟩
  | some u => rw [hl] at hs; exact ⟨_, rfl, hs⟩

theorem sim_WHO {st : St} {r : Ref} (cfg : Cfg) (e : Event) (h : SimW st r)
    (hcmd : e.command = c352 ∨ e.command = c354) :
    ∃ st', handleWHO st e = .ok st' ∧ SimW st' (r.cmdStep cfg e) := by
  obtain ⟨tags, source, command, params⟩ := e
  rcases hcmd with rfl | rfl <;> conv => enter [1, st', 2, 2]; whnf
  · -- 352 needs at least eight parameters
    rcases params with _ | ⟨p0, _ | ⟨p1, _ | ⟨ident, _ | ⟨host, _ | ⟨p4, _ | ⟨nick, _ | ⟨p6, _ | ⟨p7, rest⟩⟩⟩⟩⟩⟩⟩⟩
    iterate 8 exact ⟨st, rfl, h⟩
    exact sim_updUser_tail h nick _ _ (fun _ => rfl) (fun _ => ⟨rfl, rfl⟩)
  · -- 354 needs exactly eight, the second being the token sent with the WHO request
    rcases params with _ | ⟨p0, _ | ⟨tok, _ | ⟨p2, _ | ⟨ident, _ | ⟨host, _ | ⟨nick, _ | ⟨acct, _ | ⟨rn, _ | ⟨x, rest⟩⟩⟩⟩⟩⟩⟩⟩⟩
    iterate 8 exact ⟨st, rfl, h⟩
    · by_cases htok : tok = sOne
      · subst htok
        exact sim_updUser_tail h nick _ _ (fun u => by by_cases hz : acct = sZero <;> simp [hz, userView, Event.last])
          (fun u => by split <;> exact ⟨rfl, rfl⟩)
      · show ∃ st', (if tok ≠ sOne then _ else _) = Except.ok st' ∧ SimW st' (if tok ≠ sOne then _ else _)
        rw [if_pos htok, if_pos htok]
        exact ⟨st, rfl, h⟩
    · exact ⟨st, rfl, h⟩

theorem sim_CHGHOST {st : St} {r : Ref} (cfg : Cfg) (e : Event) (h : SimW st r) (hcmd : e.command = cCHGHOST) :
    SimW (handleCHGHOST st e) (r.cmdStep cfg e) := by
  obtain ⟨tags, source, command, params⟩ := e
  subst hcmd
  conv => arg 2; whnf
  rcases source with _ | src
  · exact h
  rcases params with _ | ⟨i, _ | ⟨h', _ | ⟨x, rest⟩⟩⟩
  · exact h
  · exact h
  · exact simW_updUser_fold h src.name _ _ (fun _ => rfl) (fun _ => ⟨rfl, rfl⟩)
  · exact h

theorem sim_AWAY {st : St} {r : Ref} (cfg : Cfg) (e : Event) (h : SimW st r) (hcmd : e.command = cAWAY) :
    SimW (handleAWAY st e) (r.cmdStep cfg e) := by
  obtain ⟨tags, source, command, params⟩ := e
  subst hcmd
  conv => arg 2; whnf
  rcases source with _ | src
  · exact h
  · exact simW_updUser_fold h src.name _ _ (fun _ => rfl) (fun _ => ⟨rfl, rfl⟩)

theorem sim_ACCOUNT {st : St} {r : Ref} (cfg : Cfg) (e : Event) (h : SimW st r) (hcmd : e.command = cACCOUNT) :
    SimW (handleACCOUNT st e) (r.cmdStep cfg e) := by
  obtain ⟨tags, source, command, params⟩ := e
  subst hcmd
  conv => arg 2; whnf
  rcases source with _ | src
  · exact h
  rcases params with _ | ⟨a, _ | ⟨x, rest⟩⟩
  · exact h
  · exact simW_updUser_fold h src.name _ _ (fun _ => rfl) (fun _ => ⟨rfl, rfl⟩)
  · exact h

end Girc.Proofs.SimAttr
