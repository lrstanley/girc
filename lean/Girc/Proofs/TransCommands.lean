import Girc.Proofs.TransBase
import Girc.Model.Commands
import Girc.Proofs.TransEvent
/-
  Translator equivalence, commands.go: the helpers hand their events to the sinks `cmd.c.Send` / `cmd.c.write`; the
  generated functions return the list of `Out`s in call order (`cmd.c.MaxEventLength()` is the parameter
  `maxEventLength`).  Tied to the corresponding branch of the model's `helperOuts`.  The helpers without a loop are
  proved where they are stated, in Props/TieCommands.lean.
-/
namespace Girc.Proofs.Trans
open Girc Girc.Model Girc.Go Girc.Gen

theorem ev_cmd (nm : String) (c : Bytes) (h : b nm = c) (ps : List Bytes) : ev nm ps = { command := c, params := ps } := by
  rw [ev, h]

/-- The loops of `Join` and of `List` have the same text but for the command.  The lemma is about any `F` with that
    body, so that both instantiate it by `rfl`. -/
theorem batch_loop (channels : List Bytes) (max : Int) (nm : String) (cmd : Bytes) (hcmd : b nm = cmd)
    (F : Nat → List Out → Bytes → Int → Except Fault (LoopR (List Out × Bytes) (List Out)))
    (hF : ∀ fuel outs_ buffer i, F (fuel + 1) outs_ buffer i = (do
      let mut outs_ := outs_
      let mut buffer := buffer
      let mut i := i
      if !(decide (i < (len channels))) then
        return .done (outs_, buffer)
      if (← andE (pure (buffer != ([] : Bytes))) (do pure (decide ((len ((buffer ++ [0x2C]) ++ (← atL channels i))) > max)))) then
        outs_ := outs_ ++ [Out.send ({ tags := none, source := none, command := cmd, params := ([buffer] : List Bytes) } : Event)]
        buffer := ([] : Bytes)
      if (buffer == ([] : Bytes)) then
        buffer := (← atL channels i)
      else
        buffer := (buffer ++ ([0x2C] ++ (← atL channels i)))
      if (i == ((len channels) - 1)) then
        outs_ := outs_ ++ [Out.send ({ tags := none, source := none, command := cmd, params := ([buffer] : List Bytes) } : Event)]
        return .ret outs_
      i := i + 1
      F fuel outs_ buffer i))
    (hne : channels ≠ []) :
    F (fuelTo 0 (len channels)) [] [] 0 =
      .ok (.ret ((batchChannels max channels []).map fun bch => Out.send (ev nm [bch]))) := by
  have := forIdx_len channels (fun fuel (s : List Out × Bytes) i => F fuel s.1 s.2 i)
    (fun n s => match channels.drop n with
      | [] => .done s
      | rest => .ret (s.1 ++ (batchChannels max rest s.2).map fun bch => Out.send (ev nm [bch])))
    (fun fuel s => by simp only [gosem, hF, List.drop_length])
    (fun fuel n s ch hn hx ih => by
      obtain ⟨outs, buffer⟩ := s
      have hb1 : (buffer != ([] : Bytes)) = !buffer.isEmpty := by cases buffer <;> rfl
      have hb2 : (buffer == ([] : Bytes)) = buffer.isEmpty := by cases buffer <;> rfl
      have hlen : decide (len ((buffer ++ [0x2C]) ++ ch) > max) = decide (((buffer ++ [0x2C] ++ ch).length : Int) > max) :=
        rfl
      simp only [gosem, hF, decide_lt_len hn, atL_ofNat hx, hb1, hb2, hlen, drop_cons_of_getElem? hx, batchChannels,
        ev_cmd nm cmd hcmd]
      generalize (!buffer.isEmpty && decide (((buffer ++ [0x2C] ++ ch).length : Int) > max)) = fl
      have ih' := fun o bf => ih (o, bf)
      simp only [ev_cmd nm cmd hcmd] at ih'
      rw [beq_pred_len hn]
      cases hd : channels.drop (n + 1) with
      | nil =>
        simp only [List.isEmpty_nil, batchChannels, if_true]
        cases fl <;> cases hb : buffer.isEmpty <;> simp
      | cons c cs =>
        simp only [hd] at ih'
        simp only [List.isEmpty_cons, Bool.false_eq_true, if_false, ih']
        cases fl <;> cases hb : buffer.isEmpty <;> simp)
    0 ([], []) (Nat.zero_le _)
  cases channels with
  | nil => exact absurd rfl hne
  | cons c cs => simpa only [List.drop_zero, List.nil_append, Int.natCast_zero] using this

theorem forSend {ρ : Type} (xs : List Bytes) (F : Nat → List Out → Int → Except Fault (LoopR (List Out) ρ))
    (mk : Bytes → Out) (hexit : ∀ fuel outs, F (fuel + 1) outs xs.length = .ok (.done outs))
    (hstep : ∀ fuel (n : Nat) outs x, n < xs.length → xs[n]? = some x →
      F (fuel + 1) outs n = F fuel (outs ++ [mk x]) ((n : Int) + 1)) :
    F (fuelTo 0 (len xs)) [] 0 = .ok (.done (xs.map mk)) := by
  have := forFold xs F (fun o x => o ++ [mk x]) hexit hstep 0 [] (Nat.zero_le _)
  rwa [List.drop_zero, foldl_snoc, List.nil_append, Int.natCast_zero] at this

/-- The model's `helperOuts … "SendRaw"` branch: every line is parsed and sent, up to the first one that does not parse. -/
def sendRawOuts (a : List Bytes) : List Out :=
  ((a.map parseEvent).takeWhile Option.isSome).filterMap (fun o => o.map Out.send)

/-- What `SendRaw` returns of its loop's result (the last parsed event the loop also carries is scratch). -/
def sendRawOut : LoopR ((List Out) × (Option Event)) ((Option GoErr) × (List Out)) → (Option GoErr) × (List Out)
  | .done (o, _) => (none, o)
  | .ret r => r

theorem Commands_SendRaw_loop1_eq (raw : List Bytes) :
    (Fn.Commands_SendRaw_loop1 raw (fuelTo 0 (len raw)) [] none 0).map sendRawOut =
      .ok (if (raw.map parseEvent).all Option.isSome then none else some GoErr.mk, sendRawOuts raw) := by
  have := forIdx_len raw
    (fun fuel (s : List Out × Option Event) i => (Fn.Commands_SendRaw_loop1 raw fuel s.1 s.2 i).map sendRawOut)
    (fun n s => (if ((raw.drop n).map parseEvent).all Option.isSome then none else some GoErr.mk,
      s.1 ++ sendRawOuts (raw.drop n)))
    (fun fuel s => by
      simp only [gosem, Fn.Commands_SendRaw_loop1, Except.map, sendRawOut, List.drop_length, List.map_nil, List.all_nil,
        sendRawOuts, List.takeWhile_nil, List.filterMap_nil, List.append_nil])
    (fun fuel n s l hn hx ih => by
      simp only [gosem, Fn.Commands_SendRaw_loop1, decide_lt_len hn, atL_ofNat hx, ParseEvent_eq,
        drop_cons_of_getElem? hx, List.map_cons, List.all_cons, sendRawOuts, List.takeWhile_cons]
      cases hp : parseEvent l with
      | none => simp [Except.map, sendRawOut, errOf]
      | some e =>
        refine (ih (s.1 ++ [Out.send e], some e)).trans ?_
        simp [sendRawOuts])
    0 ([], none) (Nat.zero_le _)
  simpa only [List.drop_zero, List.nil_append, Int.natCast_zero] using this

end Girc.Proofs.Trans
