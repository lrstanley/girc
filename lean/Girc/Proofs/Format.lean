import Girc.Spec.FormatSpec
import Girc.Proofs.BytesLemmas
import Girc.Proofs.AMapLemmas
/-
  C20: `Fmt` is compositional over literal pieces and tokens; `TrimFmt` removes exactly the lower-case
  `{name}` tokens, for every iteration order of the token maps; `StripRaw` removes what `Fmt` adds.
  All three go over a source text item by item: a literal is stepped over, a token is handled as a whole.
-/
namespace Girc.Proofs.Format
open Girc Girc.Model Girc.Spec Girc.Proofs.BytesLemmas

def isLetter (b : Byte) : Bool := (0x41 ≤ b && b ≤ 0x5A) || (0x61 ≤ b && b ≤ 0x7A)

theorem letter_facts : ∀ b : Byte, isLetter b = true →
    fmtInner b = true ∧ b ≠ LBRACE ∧ b ≠ RBRACE ∧ b ≠ COMMA ∧ lower1 b ≠ COMMA := by decide +kernel

theorem letter_inner : ∀ b : Byte, isLetter b = true → fmtInner b = true := fun b h => (letter_facts b h).1

/-- bytes allowed inside a token: keeps the brace open, is no brace -/
def innerOk (b : Byte) : Bool := fmtInner b && b != LBRACE && b != RBRACE

theorem innerOk_iff {b : Byte} : innerOk b = true ↔ fmtInner b = true ∧ b ≠ LBRACE ∧ b ≠ RBRACE := by
  simp only [innerOk, Bool.and_eq_true, bne_iff_ne, and_assoc]

theorem all_letter_innerOk (n : Bytes) (h : lettersOnly n = true) : n.all innerOk = true :=
  List.all_eq_true.mpr fun b hb =>
    have hl := letter_facts b (List.all_eq_true.mp h b hb)
    innerOk_iff.mpr ⟨hl.1, hl.2.1, hl.2.2.1⟩

theorem pair_innerOk (fg bg : Bytes) (h1 : lettersOnly fg = true) (h2 : lettersOnly bg = true) :
    (fg ++ COMMA :: bg).all innerOk = true := by
  rw [List.all_append, List.all_cons, all_letter_innerOk fg h1, all_letter_innerOk bg h2]
  rfl

theorem src_cons (it : Item) (items : List Item) : src (it :: items) = srcItem it ++ src items :=
  List.flatMap_cons
theorem out_cons (it : Item) (items : List Item) : out (it :: items) = outItem it ++ out items :=
  List.flatMap_cons

theorem token_append (n rest : Bytes) : token n ++ rest = LBRACE :: (n ++ RBRACE :: rest) := by
  simp only [token, List.cons_append, List.append_assoc, List.nil_append]

theorem srcItem_pair (fg bg : Bytes) : srcItem (.pair fg bg) = token (fg ++ COMMA :: bg) := by
  simp only [srcItem, token, List.cons_append, List.append_assoc]

theorem fmtScan_lit (s rest : Bytes) (h : braceFree s = true) :
    fmtScan (s ++ rest) none = s ++ fmtScan rest none := by
  induction s with
  | nil => rfl
  | cons b s ih =>
    obtain ⟨hb, hs⟩ := Bool.and_eq_true_iff.mp (List.all_cons.symm.trans h)
    have hb : b ≠ LBRACE := (Bool.and_eq_true_iff.mp hb).1 |> bne_iff_ne.mp
    rw [List.cons_append, fmtScan, if_neg hb, ih hs]
    rfl

theorem fmt_id (t : Bytes) (h : braceFree t = true) : fmt t = t := by
  have := fmtScan_lit t [] h
  rwa [List.append_nil, show fmtScan [] none = [] from rfl, List.append_nil] at this

theorem fmtScan_pending (n rest p : Bytes) (h : n.all innerOk = true) :
    fmtScan (n ++ RBRACE :: rest) (some p) = fmtRepl (p ++ n) ++ fmtScan rest none := by
  induction n generalizing p with
  | nil =>
    rw [List.nil_append, fmtScan, if_neg (by decide), List.append_nil]
    exact if_pos rfl
  | cons b n ih =>
    obtain ⟨hb, hn⟩ := Bool.and_eq_true_iff.mp (List.all_cons.symm.trans h)
    obtain ⟨h1, h2, h3⟩ := innerOk_iff.mp hb
    rw [List.cons_append, fmtScan, if_neg h2]
    rw [if_neg h3, if_pos h1, ih _ hn, List.append_assoc]
    rfl

theorem fmtScan_token (n rest : Bytes) (h : n.all innerOk = true) :
    fmtScan (token n ++ rest) none = fmtRepl n ++ fmtScan rest none := by
  have := fmtScan_pending n rest [] h
  rw [List.nil_append] at this
  rw [token_append, fmtScan, if_pos rfl, this]
  rfl

theorem lower_noComma (n : Bytes) (h : lettersOnly n = true) : COMMA ∉ toLowerAscii n := by
  intro hx
  obtain ⟨a, ha, e⟩ := List.mem_map.mp hx
  exact (letter_facts a (List.all_eq_true.mp h a ha)).2.2.2.2 e

theorem fmtRepl_name (n : Bytes) (h : lettersOnly n = true) : fmtRepl n = outItem (.name n) := by
  simp only [fmtRepl, outItem]
  rw [indexOf_none _ _ (lower_noComma n h)]
  cases hc : colorOf (toLowerAscii n) <;> simp

theorem fmtRepl_pair (fg bg : Bytes) (h1 : lettersOnly fg = true)
    (h3 : isColorName fg = true) (h4 : isColorName bg = true) :
    fmtRepl (fg ++ COMMA :: bg) = outItem (.pair fg bg) := by
  simp only [fmtRepl, outItem]
  have hl : toLowerAscii (fg ++ COMMA :: bg) = toLowerAscii fg ++ COMMA :: toLowerAscii bg := by
    simp [toLowerAscii, show lower1 COMMA = COMMA by decide]
  have hlen : (toLowerAscii fg).length = fg.length := by simp [toLowerAscii]
  rw [hl, indexOf_append_cons _ _ _ (lower_noComma fg h1)]
  simp only [isColorName] at h3 h4
  obtain ⟨c1, hc1⟩ := Option.isSome_iff_exists.mp h3
  obtain ⟨c2, hc2⟩ := Option.isSome_iff_exists.mp h4
  have hne : toLowerAscii bg ≠ [] := by
    intro he; rw [he, show colorOf [] = none by decide] at hc2; cases hc2
  simp [hc1, hc2, hne, twoDigits]

theorem fmt_compositional (items : List Item) (h : items.all wfItem = true) : fmt (src items) = out items := by
  unfold fmt
  induction items with
  | nil => rfl
  | cons it items ih =>
    obtain ⟨hw, hrest⟩ := Bool.and_eq_true_iff.mp (List.all_cons.symm.trans h)
    rw [src_cons, out_cons, ← ih hrest]
    cases it with
    | lit s => exact fmtScan_lit s _ hw
    | name n =>
      have hl : lettersOnly n = true := (Bool.and_eq_true_iff.mp hw).1
      rw [← fmtRepl_name n hl]
      exact fmtScan_token n (src items) (all_letter_innerOk n hl)
    | pair fg bg =>
      simp only [wfItem, Bool.and_eq_true] at hw
      obtain ⟨⟨⟨h1, h2⟩, h3⟩, h4⟩ := hw
      rw [← fmtRepl_pair fg bg h1 h3 h4, srcItem_pair]
      exact fmtScan_token _ (src items) (pair_innerOk fg bg h1 h2)

theorem removeAllFuel_indep (old : Bytes) (hold : old ≠ []) : ∀ (n m : Nat) (s : Bytes),
    s.length < n → s.length < m → removeAllFuel old n s = removeAllFuel old m s := by
  have hlen : 0 < old.length := List.length_pos_iff.mpr hold
  intro n
  induction n with
  | zero => intro m s h; omega
  | succ n ih =>
    intro m s hn hm
    cases m with
    | zero => omega
    | succ m =>
      cases s with
      | nil => rfl
      | cons b rest =>
        simp only [List.length_cons] at hn hm
        simp only [removeAllFuel]
        by_cases hp : old.isPrefixOf (b :: rest) = true
        · rw [if_pos hp, if_pos hp]
          refine ih m _ ?_ ?_ <;> simp only [List.length_drop, List.length_cons] <;> omega
        · rw [if_neg hp, if_neg hp, ih m rest (by omega) (by omega)]

theorem removeAll_cons (old : Bytes) (hold : old ≠ []) (b : Byte) (rest : Bytes) :
    removeAll old (b :: rest) =
      if old.isPrefixOf (b :: rest) then removeAll old ((b :: rest).drop old.length)
      else b :: removeAll old rest := by
  have hlen : 0 < old.length := List.length_pos_iff.mpr hold
  have he : old.isEmpty = false := List.isEmpty_eq_false_iff.mpr hold
  simp only [removeAll, he, Bool.false_eq_true, if_false, List.length_cons, removeAllFuel]
  by_cases hp : old.isPrefixOf (b :: rest) = true
  · rw [if_pos hp, if_pos hp]
    refine removeAllFuel_indep old hold _ _ _ ?_ ?_ <;> simp only [List.length_drop, List.length_cons] <;> omega
  · rw [if_neg hp, if_neg hp]

theorem removeAll_skip (name s rest : Bytes) (h : ∀ b ∈ s, b ≠ LBRACE) :
    removeAll (token name) (s ++ rest) = s ++ removeAll (token name) rest := by
  induction s with
  | nil => rfl
  | cons b s ih =>
    obtain ⟨hb, hs⟩ := List.forall_mem_cons.mp h
    have : (token name).isPrefixOf (b :: (s ++ rest)) = false := by
      rw [token, List.cons_append, List.isPrefixOf, beq_eq_false_iff_ne.mpr hb.symm, Bool.false_and]
    rw [List.cons_append, removeAll_cons (token name) (List.cons_ne_nil _ _), this, ih hs]
    rfl

theorem cut_unique {x : Byte} {a b s t : Bytes} (ha : x ∉ a) (hb : x ∉ b) (h : a ++ x :: s = b ++ x :: t) :
    a = b := by
  obtain ⟨a', rfl, h'⟩ := append_eq_append_cons ha h
  cases a' with
  | nil => exact (List.append_nil a).symm
  | cons y a' => exact absurd (List.mem_append_right a ((List.cons.inj h').1 ▸ List.mem_cons_self)) hb

theorem removeAll_token (name inner rest : Bytes) (hn : ∀ x ∈ name, x ≠ RBRACE)
    (hi : inner.all innerOk = true) :
    removeAll (token name) (token inner ++ rest) =
      (if name = inner then [] else token inner) ++ removeAll (token name) rest := by
  have hi : ∀ x ∈ inner, x ≠ LBRACE ∧ x ≠ RBRACE := fun x hx =>
    (innerOk_iff.mp (List.all_eq_true.mp hi x hx)).2
  have hd := token_append inner rest
  rw [hd, removeAll_cons (token name) (List.cons_ne_nil _ _)]
  by_cases he : name = inner
  · subst he
    have hp : (token name).isPrefixOf (token name ++ rest) = true :=
      List.isPrefixOf_iff_prefix.mpr (List.prefix_append _ _)
    rw [if_pos rfl, ← hd, hp, if_pos rfl, List.drop_left]
    rfl
  · have hp : (token name).isPrefixOf (LBRACE :: (inner ++ RBRACE :: rest)) = false := by
      cases hc : (token name).isPrefixOf (LBRACE :: (inner ++ RBRACE :: rest)) with
      | false => rfl
      | true =>
        simp only [token, List.cons_append, List.isPrefixOf, Bool.and_eq_true] at hc
        obtain ⟨t, ht⟩ := List.isPrefixOf_iff_prefix.mp hc.2
        rw [List.append_assoc] at ht
        exact absurd (cut_unique (fun hm => hn _ hm rfl) (fun hm => (hi _ hm).2 rfl) ht) he
    have hs : ∀ b ∈ inner ++ [RBRACE], b ≠ LBRACE :=
      List.forall_mem_append.mpr ⟨fun x hx => (hi x hx).1, List.forall_mem_singleton.mpr (by decide)⟩
    have := removeAll_skip name (inner ++ [RBRACE]) rest hs
    rw [List.append_assoc, List.singleton_append] at this
    rw [hp, if_neg he, this]
    simp only [Bool.false_eq_true, if_false, token, List.cons_append, List.append_assoc, List.nil_append]

def isNameItem (name : Bytes) : Item → Bool
  | .name n => n == name
  | _ => false

theorem removeAll_src (name : Bytes) (hn : lettersOnly name = true) (items : List Item)
    (h : items.all wfItem = true) :
    removeAll (token name) (src items) = src (items.filter (fun it => !isNameItem name it)) := by
  have hnm := fun x hx => letter_facts x (List.all_eq_true.mp hn x hx)
  have hnR : ∀ x ∈ name, x ≠ RBRACE := fun x hx => (hnm x hx).2.2.1
  induction items with
  | nil => unfold removeAll; split <;> rfl
  | cons it items ih =>
    obtain ⟨hw, hrest⟩ := Bool.and_eq_true_iff.mp (List.all_cons.symm.trans h)
    rw [src_cons]
    cases it with
    | lit s =>
      have hs : ∀ b ∈ s, b ≠ LBRACE := fun b hb =>
        bne_iff_ne.mp (Bool.and_eq_true_iff.mp (List.all_eq_true.mp hw b hb)).1
      rw [List.filter_cons_of_pos (by rfl), src_cons]
      exact (removeAll_skip name s _ hs).trans (congrArg _ (ih hrest))
    | name n =>
      rw [show srcItem (.name n) = token n from rfl, removeAll_token name n _ hnR (all_letter_innerOk n (Bool.and_eq_true_iff.mp hw).1),
        ih hrest]
      by_cases he : name = n
      · rw [if_pos he, List.filter_cons_of_neg (by simp [isNameItem, he])]
        rfl
      · rw [if_neg he, List.filter_cons_of_pos (by simp [isNameItem, Ne.symm he]), src_cons]
        rfl
    | pair fg bg =>
      simp only [wfItem, Bool.and_eq_true] at hw
      obtain ⟨h1, h2⟩ := hw.1.1
      have hne : name ≠ fg ++ COMMA :: bg := fun e =>
        (hnm COMMA (by rw [e]; simp)).2.2.2.1 rfl
      rw [srcItem_pair, removeAll_token name _ _ hnR (pair_innerOk fg bg h1 h2), ih hrest, if_neg hne,
        List.filter_cons_of_pos (by rfl), src_cons, srcItem_pair]

theorem trimFmt_src (order : List Bytes) (ho : ∀ n ∈ order, lettersOnly n = true) :
    ∀ (items : List Item), items.all wfItem = true →
    trimFmt order (src items) = src (items.filter (fun it => order.all (fun n => !isNameItem n it))) := by
  induction order with
  | nil =>
    intro items _
    have : items.filter (fun _ => true) = items := List.filter_eq_self.mpr (fun _ _ => rfl)
    simp [trimFmt, this]
  | cons n order ih =>
    intro items h
    obtain ⟨hn, ho⟩ := List.forall_mem_cons.mp ho
    show trimFmt order (removeAll (token n) (src items)) = _
    rw [removeAll_src n hn items h, ih ho _ (List.all_eq_true.mpr fun x hx => List.all_eq_true.mp h x (List.mem_filter.mp hx).1),
      List.filter_filter]
    congr 1
    apply List.filter_congr
    intro it _
    simp [Bool.and_comm]

/-- For EVERY iteration order of the token maps. -/
theorem trimfmt_exact (order : List Bytes) (hperm : order.Perm tokenNames) (items : List Item)
    (h : items.all wfItem = true) :
    trimFmt order (src items) = src (items.filter (fun it => !isLowerToken it)) := by
  have ho : ∀ n ∈ order, lettersOnly n = true := fun n hn =>
    List.all_eq_true.mp (by decide : tokenNames.all lettersOnly = true) n (hperm.mem_iff.mp hn)
  rw [trimFmt_src order ho items h]
  congr 1
  apply List.filter_congr
  intro it _
  cases it with
  | lit s => simp [isNameItem, isLowerToken]
  | pair fg bg => simp [isNameItem, isLowerToken]
  | name m =>
    simp only [isNameItem, isLowerToken]
    rw [Bool.eq_iff_iff]
    simp only [List.all_eq_true, Bool.not_eq_true', beq_eq_false_iff_ne, List.contains_eq_mem,
      decide_eq_false_iff_not]
    exact ⟨fun h hm => h m (hperm.mem_iff.mpr hm) rfl, fun h n hn e => h (hperm.mem_iff.mp (e ▸ hn))⟩

theorem stripColorFuel_indep : ∀ (n m : Nat) (s : Bytes), s.length < n → s.length < m →
    stripColorFuel n s = stripColorFuel m s := by
  intro n
  induction n with
  | zero => intro m s h; omega
  | succ n ih =>
    intro m s hn hm
    cases m with
    | zero => omega
    | succ m =>
      cases s with
      | nil => rfl
      | cons b rest =>
        simp only [List.length_cons] at hn hm
        simp only [stripColorFuel]
        have hrest := ih m rest (by omega) (by omega)
        split
        · split
          · exact ih m _ (by rw [List.length_drop]; omega) (by rw [List.length_drop]; omega)
          · rw [hrest]
        · rw [hrest]

theorem stripColor_nil : stripColor [] = [] := rfl

theorem stripColor_cons (b : Byte) (rest : Bytes) :
    stripColor (b :: rest) =
      if b = 0x03 then
        match colorArgs rest with
        | some k => stripColor (rest.drop k)
        | none => b :: stripColor rest
      else b :: stripColor rest := by
  simp only [stripColor, List.length_cons, stripColorFuel]
  by_cases hb : b = 0x03
  · rw [if_pos hb, if_pos hb]
    cases hc : colorArgs rest with
    | none => rfl
    | some k => exact stripColorFuel_indep _ _ _ (by rw [List.length_drop]; omega) (by omega)
  · rw [if_neg hb, if_neg hb]

theorem stripColor_append (s rest : Bytes) (h : ∀ b ∈ s, b ≠ 0x03) :
    stripColor (s ++ rest) = s ++ stripColor rest := by
  induction s with
  | nil => rfl
  | cons b s ih =>
    obtain ⟨hb, hs⟩ := List.forall_mem_cons.mp h
    rw [List.cons_append, stripColor_cons, if_neg hb, ih hs, List.cons_append]

theorem strip_clean (t : Bytes) : ∀ b ∈ stripRaw t, b ∉ codeBytes := by
  intro b hb
  simp only [stripRaw, List.mem_filter] at hb
  simpa using hb.2

theorem stripColor_filter_plain (s rest : Bytes) (h : ∀ b ∈ s, b ∉ codeBytes) :
    (stripColor (s ++ rest)).filter (fun b => !codeBytes.contains b) =
      s ++ (stripColor rest).filter (fun b => !codeBytes.contains b) := by
  have h3 : ∀ b ∈ s, b ≠ 0x03 := fun b hb he => h b hb (he ▸ (by decide : (0x03 : Byte) ∈ codeBytes))
  rw [stripColor_append s rest h3, List.filter_append, List.filter_eq_self.mpr]
  intro b hb
  simpa using h b hb

theorem noCode_of_hasCodeByte (t : Bytes) (h : hasCodeByte t = false) : ∀ b ∈ t, b ∉ codeBytes :=
  fun b hb hc => List.any_eq_false.mp h b hb (List.contains_iff_mem.mpr hc)

theorem strip_id (t : Bytes) (h : hasCodeByte t = false) : stripRaw t = t := by
  have := stripColor_filter_plain t [] (noCode_of_hasCodeByte t h)
  rwa [List.append_nil, stripColor_nil, List.filter_nil, List.append_nil] at this

theorem strip_idem (t : Bytes) : stripRaw (stripRaw t) = stripRaw t := by
  refine strip_id _ (List.any_eq_false.mpr fun b hb hc => ?_)
  exact strip_clean t b hb (List.contains_iff_mem.mp hc)

theorem colorOf_lt16 (n : Bytes) (c : Nat) (h : colorOf n = some c) : c < 16 := by
  have := List.all_eq_true.mp (by decide : Spec.colors.all (fun p => p.2 < 16) = true) _ (InvBase.get?_some_mem h)
  simpa using this

def codeOk (v : Bytes) : Bool :=
  match v with
  | [b] => codeBytes.contains b
  | _ => false

theorem codeOf_ok (n v : Bytes) (h : codeOf n = some v) : ∃ b, v = [b] ∧ b ∈ codeBytes := by
  have := List.all_eq_true.mp (by decide : Spec.codes.all (fun p => codeOk p.2) = true) _ (InvBase.get?_some_mem h)
  simp only [codeOk] at this
  split at this
  · rename_i b; exact ⟨b, rfl, List.contains_iff_mem.mp this⟩
  · cases this

theorem twoDigits_lt16 : ∀ c, c < 16 →
    ∃ a b, twoDigits c = [a, b] ∧ is019 a = true ∧ isDigitB b = true := by
  intro c hc
  refine ⟨_, _, rfl, ?_, ?_⟩ <;>
  · revert c; decide

/-- the next byte does not continue a colour sequence -/
def okNext (s : Bytes) : Bool :=
  match s.head? with
  | some b => !(isDigitB b || b = COMMA)
  | none => true

theorem is019_digit {b : Byte} (h : is019 b = true) : isDigitB b = true := by
  simp only [is019, Bool.or_eq_true, decide_eq_true_eq] at h
  rcases h with (rfl | rfl) | rfl <;> rfl

theorem colorNum_okNext (s : Bytes) (h : okNext s = true) : colorNum s = none := by
  match s with
  | [] => rfl
  | [a] =>
    simp [okNext] at h
    simp [colorNum, h.1]
  | a :: b :: r =>
    simp [okNext] at h
    have h1 : is019 a = false := by
      cases h019 : is019 a with
      | false => rfl
      | true => rw [is019_digit h019] at h; simp at h
    simp [colorNum, h.1, h1]

theorem colorArgs_okNext (s : Bytes) (h : okNext s = true) : colorArgs s = none := by
  simp [colorArgs, colorNum_okNext s h]

theorem colorArgs_two (a b : Byte) (rest : Bytes) (ha : is019 a = true) (hb : isDigitB b = true)
    (h : okNext rest = true) : colorArgs (a :: b :: rest) = some 2 := by
  have hn : colorNum (a :: b :: rest) = some 2 := by simp [colorNum, ha, hb]
  simp only [colorArgs, hn, List.drop_succ_cons, List.drop_zero]
  match rest, h with
  | [], _ => rfl
  | c :: r, h =>
    simp [okNext] at h
    simp [h.2]

theorem colorArgs_five (a b c d : Byte) (rest : Bytes) (ha : is019 a = true) (hb : isDigitB b = true)
    (hc : is019 c = true) (hd : isDigitB d = true) :
    colorArgs (a :: b :: COMMA :: c :: d :: rest) = some 5 := by
  have hn : colorNum (a :: b :: COMMA :: c :: d :: rest) = some 2 := by simp [colorNum, ha, hb]
  have hm : colorNum (c :: d :: rest) = some 2 := by simp [colorNum, hc, hd]
  simp [colorArgs, hn, hm]

theorem literals_cons (it : Item) (items : List Item) :
    literals (it :: items) = (match it with | .lit s => s | _ => []) ++ literals items :=
  List.flatMap_cons

/-- `StripRaw` removes the output of a well-formed token, unless digits follow a colour. -/
theorem strip_token (it : Item) (rest : Bytes) (hw : wfItem it = true) (hlit : ∀ s, it ≠ .lit s)
    (hd : (outItem it).head? ≠ some 0x03 ∨ okNext rest = true) :
    (stripColor (outItem it ++ rest)).filter (fun b => !codeBytes.contains b) =
      (stripColor rest).filter (fun b => !codeBytes.contains b) := by
  cases it with
  | lit s => exact absurd rfl (hlit s)
  | name n =>
    simp only [wfItem, Bool.and_eq_true] at hw
    cases hc : colorOf (toLowerAscii n) with
    | some c =>
      have ho : outItem (.name n) = 0x03 :: twoDigits c := by simp [outItem, hc]
      obtain ⟨a, b, hab, ha, hb⟩ := twoDigits_lt16 c (colorOf_lt16 _ _ hc)
      rw [ho] at hd ⊢
      have hok : okNext rest = true := by simpa using hd
      rw [hab, List.cons_append, stripColor_cons, if_pos rfl, List.cons_append, List.cons_append,
        List.nil_append, colorArgs_two a b _ ha hb hok]
      rfl
    | none =>
      have hcode : isCodeName n = true := by simpa [isColorName, hc] using hw.2
      obtain ⟨v, hv⟩ := Option.isSome_iff_exists.mp hcode
      obtain ⟨b, rfl, hb⟩ := codeOf_ok _ _ hv
      have ho : outItem (.name n) = [b] := by simp [outItem, hc, hv]
      rw [ho] at hd ⊢
      have hbf : (!codeBytes.contains b) = false := by simpa using hb
      rw [List.singleton_append]
      by_cases h3 : b = 0x03
      · have hok : okNext rest = true := by simpa [h3] using hd
        rw [stripColor_cons, if_pos h3, colorArgs_okNext _ hok]
        exact List.filter_cons_of_neg (by rw [hbf]; exact Bool.false_ne_true)
      · rw [stripColor_cons, if_neg h3]
        exact List.filter_cons_of_neg (by rw [hbf]; exact Bool.false_ne_true)
  | pair fg bg =>
    simp only [wfItem, Bool.and_eq_true, isColorName] at hw
    obtain ⟨c1, hc1⟩ := Option.isSome_iff_exists.mp hw.1.2
    obtain ⟨c2, hc2⟩ := Option.isSome_iff_exists.mp hw.2
    obtain ⟨a, b, hab, ha, hb⟩ := twoDigits_lt16 c1 (colorOf_lt16 _ _ hc1)
    obtain ⟨c, d, hcd, hc, hd'⟩ := twoDigits_lt16 c2 (colorOf_lt16 _ _ hc2)
    simp only [outItem, hc1, hc2, Option.getD_some, hab, hcd, List.cons_append, List.nil_append]
    rw [stripColor_cons, if_pos rfl, colorArgs_five a b c d _ ha hb hc hd']
    rfl

theorem noDigit_head (it : Item) (items : List Item) (hlit : ∀ s, it ≠ .lit s)
    (h : noDigitAfterColor (it :: items) = true) :
    (outItem it).head? ≠ some 0x03 ∨ okNext (out items) = true := by
  simp only [noDigitAfterColor, Bool.and_eq_true] at h
  have h := h.1
  unfold okNext
  generalize (out items).head? = o at h ⊢
  rcases it with s | n | ⟨fg, bg⟩
  · exact absurd rfl (hlit s)
  all_goals cases o <;> simp at h ⊢ <;> exact h

theorem strip_out (items : List Item) (h : items.all wfItem = true)
    (hl : literalsCodeFree items = true) (hd : noDigitAfterColor items = true) :
    (stripColor (out items)).filter (fun b => !Spec.codeBytes.contains b) = literals items := by
  induction items with
  | nil => rfl
  | cons it items ih =>
    obtain ⟨hw, hrest⟩ := Bool.and_eq_true_iff.mp (List.all_cons.symm.trans h)
    obtain ⟨hl1, hl2⟩ := Bool.and_eq_true_iff.mp (List.all_cons.symm.trans hl)
    have hd2 : noDigitAfterColor items = true := by
      simp only [noDigitAfterColor, Bool.and_eq_true] at hd
      exact hd.2
    rw [out_cons, literals_cons, ← ih hrest hl2 hd2]
    cases it with
    | lit s => exact stripColor_filter_plain s _ (noCode_of_hasCodeByte s (by simpa using hl1))
    | name n =>
      exact strip_token _ _ hw (fun _ e => nomatch e) (noDigit_head _ items (fun _ e => nomatch e) hd)
    | pair fg bg =>
      exact strip_token _ _ hw (fun _ e => nomatch e) (noDigit_head _ items (fun _ e => nomatch e) hd)

theorem strip_fmt (items : List Item) (h : items.all wfItem = true) (hl : literalsCodeFree items = true)
    (hd : noDigitAfterColor items = true) : stripRaw (fmt (src items)) = literals items := by
  rw [fmt_compositional items h, stripRaw]
  exact strip_out items h hl hd

end Girc.Proofs.Format
