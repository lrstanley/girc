import Girc.Proofs.ParseParams
/-
  `cutSection`, `parseSource` and the section-wise parse lemma `parseEvent_sections`, which covers
  both rendered grammar lines and serialised events.
-/
namespace Girc.Proofs.ParseSections
open Girc Girc.Model Girc.Spec Girc.Proofs.ParseLemmas Girc.Proofs.BytesLemmas Girc.Proofs.ParseParams

/-- A leading `@tags ` / `:source ` section. -/
def secPart (lead : Byte) : Option Bytes → Bytes
  | some s => lead :: (s ++ [SP])
  | none => []

theorem cutSection_some (lead : Byte) (s rest : Bytes) (hl : lead ≠ SP) (hne : s ≠ [])
    (hsp : SP ∉ s) : cutSection lead (lead :: (s ++ SP :: rest)) = some (some s, rest) := by
  have hi : indexOf SP (lead :: (s ++ SP :: rest)) = some (s.length + 1) := by
    have := indexOf_append_cons SP rest (lead :: s) (by simp [hsp, Ne.symm hl])
    simpa using this
  have hlen : ¬ s.length + 1 < 2 := by
    cases s with
    | nil => exact absurd rfl hne
    | cons x xs => simp
  unfold cutSection
  simp only [List.head?_cons, if_true, hi, hlen, if_false]
  simp

theorem cutSection_none (lead : Byte) (raw : Bytes) (h : raw.head? ≠ some lead) :
    cutSection lead raw = some (none, raw) := by
  unfold cutSection
  simp [h]

theorem cutSection_secPart (lead : Byte) (sec : Option Bytes) (rest : Bytes) (hl : lead ≠ SP)
    (h : ∀ s, sec = some s → s ≠ [] ∧ SP ∉ s) (hr : rest.head? ≠ some lead) :
    cutSection lead (secPart lead sec ++ rest) = some (sec, rest) := by
  cases sec with
  | none => simpa [secPart] using cutSection_none lead rest hr
  | some s =>
    obtain ⟨hne, hsp⟩ := h s rfl
    have := cutSection_some lead s rest hl hne hsp
    simpa [secPart] using this

theorem parseSource_renderPrefix (p : Prefix) (hn : p.name ≠ []) (hnb : BANG ∉ p.name)
    (hna : AT ∉ p.name) (hi : ∀ i, p.ident = some i → BANG ∉ i ∧ AT ∉ i)
    (hh : ∀ h, p.host = some h → BANG ∉ h) : parseSource (renderPrefix p) = meaningSource p := by
  obtain ⟨name, oi, oh⟩ := p
  match name, hn with
  | x :: xs, _ =>
    have hl : (x :: xs).length = xs.length + 1 := rfl
    have hba : BANG ≠ AT := by decide
    cases oi with
    | none =>
      cases oh with
      | none =>
        simp only [renderPrefix, List.append_nil, parseSource, indexOf_none _ _ hnb, indexOf_none _ _ hna,
          meaningSource, Option.getD]
      | some h =>
        have hB : indexOf BANG (x :: xs ++ AT :: h) = none :=
          indexOf_none _ _ (not_mem_append _ _ hnb (by simp [hh h rfl, hba]))
        simp only [renderPrefix, List.append_nil, parseSource, hB, indexOf_append_cons _ _ _ hna, hl,
          take_append_cons hl, drop_append_cons hl, meaningSource, Option.getD]
    | some i =>
      obtain ⟨hib, hia⟩ := hi i rfl
      cases oh with
      | none =>
        have hA : indexOf AT (x :: xs ++ BANG :: i) = none :=
          indexOf_none _ _ (not_mem_append _ _ hna (by simp [hia, Ne.symm hba]))
        simp only [renderPrefix, List.append_nil, parseSource, hA, indexOf_append_cons _ _ _ hnb, hl,
          take_append_cons hl, drop_append_cons hl, meaningSource, Option.getD]
      | some h =>
        have hl2 : (x :: xs ++ BANG :: i).length = xs.length + 1 + (i.length + 1) := by simp; omega
        have hA : indexOf AT (x :: xs ++ BANG :: i ++ AT :: h) = some (xs.length + 1 + (i.length + 1)) :=
          hl2 ▸ indexOf_append_cons _ _ _ (not_mem_append _ _ hna (by simp [hia, Ne.symm hba]))
        have hB : indexOf BANG (x :: xs ++ BANG :: i ++ AT :: h) = some (xs.length + 1) := by
          rw [List.append_assoc]; exact indexOf_append_cons _ _ _ hnb
        have e : (x :: xs ++ BANG :: i ++ AT :: h).take (xs.length + 1) = x :: xs := by
          rw [List.append_assoc]; exact take_append_cons hl _ _
        simp only [renderPrefix, parseSource, hA, hB, e, take_append_cons hl2, drop_append_cons hl2,
          drop_append_cons hl, meaningSource, Option.getD, if_pos (show xs.length + 1 + (i.length + 1) >
            xs.length + 1 by omega)]

theorem parseEvent_sections (raw0 : Bytes) (tagSec srcSec : Option Bytes) (cmd P : Bytes)
    (hraw : trimCRLF raw0 = secPart AT tagSec ++ (secPart COLON srcSec ++ (cmd ++ P)))
    (hlen : 2 ≤ (trimCRLF raw0).length)
    (htag : ∀ ts, tagSec = some ts → ts ≠ [] ∧ SP ∉ ts)
    (hsrc : ∀ ss, srcSec = some ss → ss ≠ [] ∧ SP ∉ ss)
    (hne : cmd ≠ []) (hsp : SP ∉ cmd) (hat : cmd.head? ≠ some AT) (hcol : cmd.head? ≠ some COLON)
    (hP : SpLead P) :
    parseEvent raw0 = some { tags := tagSec.map parseTags, source := srcSec.map parseSource,
                             command := toUpperAscii cmd, params := parseParams P } := by
  have hcmdhead : ∀ b, (cmd ++ P).head? = some b → cmd.head? = some b := by
    cases cmd with
    | nil => exact absurd rfl hne
    | cons x xs => intro b hb; simpa using hb
  have hA : cutSection AT (secPart AT tagSec ++ (secPart COLON srcSec ++ (cmd ++ P))) =
      some (tagSec, secPart COLON srcSec ++ (cmd ++ P)) := by
    apply cutSection_secPart AT tagSec _ (by decide) htag
    cases srcSec with
    | none =>
      simp only [secPart, List.nil_append]
      intro hh; exact hat (hcmdhead _ hh)
    | some ss => simp [secPart, show COLON ≠ AT by decide]
  have hC : cutSection COLON (secPart COLON srcSec ++ (cmd ++ P)) = some (srcSec, cmd ++ P) := by
    apply cutSection_secPart COLON srcSec _ (by decide) hsrc
    intro hh; exact hcol (hcmdhead _ hh)
  unfold parseEvent
  simp only
  rw [if_neg (by omega), hraw, hA]
  simp only
  rw [hC]
  simp only
  rcases hP with hP | hP
  · subst hP
    rw [List.append_nil, indexOf_none _ _ hsp]
    rfl
  · match P, hP with
    | x :: ps, hP =>
      cases Option.some.inj hP
      rw [indexOf_append_cons _ _ _ hsp]
      simp only [take_append_cons rfl, drop_append_cons rfl, parseParams_sp]

end Girc.Proofs.ParseSections
