import Girc.Proofs.ParseLemmas
import Girc.Spec.Grammar
/-
  `parseParams` by the shape of its input: leading SPACEs are skipped, a ':' after a SPACE (or at the start)
  opens the trailing parameter, a middle token is cut off at the next SPACE.
-/
namespace Girc.Proofs.ParseParams
open Girc Girc.Model Girc.Spec

/-- Weak middle: non-empty, SPACE-free, not ':'-leading. -/
def WkMid (t : Bytes) : Prop := t ≠ [] ∧ SP ∉ t ∧ t.head? ≠ some COLON

/-- Empty or SPACE-leading. -/
def SpLead (s : Bytes) : Prop := s = [] ∨ s.head? = some SP

theorem spLead_nil : SpLead [] := Or.inl rfl
theorem spLead_cons (s : Bytes) : SpLead (SP :: s) := Or.inr rfl

theorem spLead_spaces_append (n : Nat) (r : Bytes) : SpLead (spaces n ++ r) :=
  Or.inr (by simp [spaces, List.replicate_succ])

theorem spLead_renderMiddles_append (ms : List (Nat × Bytes)) (r : Bytes) (hr : SpLead r) :
    SpLead (renderMiddles ms ++ r) := by
  cases ms with
  | nil => simpa [renderMiddles] using hr
  | cons m ms =>
    obtain ⟨k, tok⟩ := m
    simp only [renderMiddles, List.append_assoc]
    exact spLead_spaces_append _ _

theorem spLead_eq (s : Bytes) (h : SpLead s) (hne : s ≠ []) : s = SP :: s.drop 1 := by
  cases s with
  | nil => exact absurd rfl hne
  | cons x xs =>
    rcases h with h | h
    · exact absurd h hne
    · simp at h; simp [h]

theorem fieldsSp_sp (s : Bytes) : fieldsSp (SP :: s) = fieldsSp s := by
  simp [fieldsSp, fieldsSpAux]

theorem fieldsSpAux_tok (rest : Bytes) : ∀ (tok cur : Bytes), SP ∉ tok →
    fieldsSpAux (tok ++ rest) cur = fieldsSpAux rest (tok.reverse ++ cur)
  | [], cur, _ => by simp
  | b :: tok, cur, h => by
    have hb : b ≠ SP := fun e => h (by simp [e])
    have ht : SP ∉ tok := fun e => h (by simp [e])
    simp [fieldsSpAux, hb, fieldsSpAux_tok rest tok (b :: cur) ht]

theorem fieldsSp_tok (tok s : Bytes) (hne : tok ≠ []) (hsp : SP ∉ tok) :
    fieldsSp (tok ++ SP :: s) = tok :: fieldsSp s := by
  unfold fieldsSp
  rw [fieldsSpAux_tok _ _ _ hsp]
  simp [fieldsSpAux, hne]

theorem fieldsSp_tok_end (tok : Bytes) (hne : tok ≠ []) (hsp : SP ∉ tok) : fieldsSp tok = [tok] := by
  have := fieldsSpAux_tok [] tok [] hsp
  rw [List.append_nil] at this
  unfold fieldsSp
  rw [this]
  simp [fieldsSpAux, hne]

theorem findTrailerAux_pos : ∀ (s : Bytes) (p : Bool) (pos : Nat),
    findTrailerAux s p pos = (findTrailerAux s p 0).map (· + pos)
  | [], _, _ => by simp [findTrailerAux]
  | b :: rest, p, pos => by
    unfold findTrailerAux
    by_cases hc : (b = COLON && p) = true
    · simp [hc]
    · simp only [hc]
      rw [findTrailerAux_pos rest _ (pos + 1), findTrailerAux_pos rest _ (0 + 1)]
      simp [Option.map_map, Function.comp_def, Nat.add_comm, Nat.add_left_comm]

theorem findTrailer_sp (s : Bytes) : findTrailer (SP :: s) = (findTrailer s).map (· + 1) := by
  unfold findTrailer
  rw [findTrailerAux, if_neg (by decide), findTrailerAux_pos]
  rfl

theorem findTrailerAux_tok (rest : Bytes) : ∀ (tok : Bytes) (pos : Nat), SP ∉ tok →
    findTrailerAux (tok ++ rest) false pos = findTrailerAux rest false (pos + tok.length)
  | [], pos, _ => by simp
  | b :: tok, pos, h => by
    have hb : b ≠ SP := fun e => h (by simp [e])
    have ht : SP ∉ tok := fun e => h (by simp [e])
    rw [List.cons_append, findTrailerAux]
    simp only [Bool.and_false, Bool.false_eq_true, if_false, hb, decide_false]
    rw [findTrailerAux_tok rest tok (pos + 1) ht]
    congr 1
    simp; omega

theorem findTrailerAux_mid (rest tok : Bytes) (h : WkMid tok) :
    findTrailerAux (tok ++ rest) true 0 = findTrailerAux rest false tok.length := by
  obtain ⟨hne, hsp, hc⟩ := h
  match tok, hne with
  | b :: tok, _ =>
    have hb : b ≠ SP := fun e => hsp (by simp [e])
    have hbc : b ≠ COLON := by simpa using hc
    rw [List.cons_append, findTrailerAux]
    simp only [hbc, decide_false, Bool.false_and, Bool.false_eq_true, if_false, hb]
    rw [findTrailerAux_tok rest tok _ (fun e => hsp (List.mem_cons_of_mem _ e)), Nat.add_comm]
    rfl

theorem findTrailer_tok (tok s : Bytes) (h : WkMid tok) :
    findTrailer (tok ++ SP :: s) = (findTrailer s).map (· + (tok.length + 1)) := by
  unfold findTrailer
  rw [findTrailerAux_mid _ _ h, findTrailerAux, if_neg (by decide), findTrailerAux_pos]
  rfl

theorem findTrailer_tok_end (tok : Bytes) (h : WkMid tok) : findTrailer tok = none := by
  have := findTrailerAux_mid [] tok h
  rwa [List.append_nil] at this

theorem parseParams_colon (t : Bytes) : parseParams (COLON :: t) = [t] := rfl

theorem parseParams_sp (s : Bytes) : parseParams (SP :: s) = parseParams s := by
  unfold parseParams
  rw [findTrailer_sp]
  cases findTrailer s with
  | none => exact fieldsSp_sp s
  | some p =>
    cases p with
    | zero => rfl
    | succ p => simp [fieldsSp_sp]

theorem parseParams_tok_end (tok : Bytes) (h : WkMid tok) : parseParams tok = [tok] := by
  unfold parseParams
  rw [findTrailer_tok_end tok h]
  exact fieldsSp_tok_end tok h.1 h.2.1

theorem parseParams_tok (tok s : Bytes) (h : WkMid tok) :
    parseParams (tok ++ SP :: s) = tok :: parseParams s := by
  unfold parseParams
  rw [findTrailer_tok tok s h]
  cases findTrailer s with
  | none => exact fieldsSp_tok tok s h.1 h.2.1
  | some p =>
    have hd : (tok ++ SP :: s).drop (p + (tok.length + 1) + 1) = s.drop (p + 1) := by
      rw [Nat.add_comm p, Nat.add_assoc, ← List.drop_drop, ParseLemmas.drop_append_cons rfl]
    have ht : (tok ++ SP :: s).take (p + (tok.length + 1) - 1) = tok ++ (SP :: s).take p := by
      rw [show p + (tok.length + 1) - 1 = tok.length + p by omega, List.take_append,
        List.take_of_length_le (Nat.le_add_right _ _), Nat.add_sub_cancel_left]
    simp only [Option.map_some, hd, ht, if_pos (show p + (tok.length + 1) > 0 by omega)]
    cases p with
    | zero => rw [List.take_zero, List.append_nil, fieldsSp_tok_end tok h.1 h.2.1]; rfl
    | succ p => rw [List.take_succ_cons, fieldsSp_tok tok _ h.1 h.2.1]; rfl

theorem parseParams_tok_lead (tok r : Bytes) (h : WkMid tok) (hr : SpLead r) :
    parseParams (tok ++ r) = tok :: parseParams r := by
  cases r with
  | nil => rw [List.append_nil, parseParams_tok_end tok h]; rfl
  | cons x r =>
    rcases hr with hr | hr
    · cases hr
    · cases Option.some.inj hr
      rw [parseParams_tok tok r h, parseParams_sp]

theorem parseParams_spaces (n : Nat) (s : Bytes) : parseParams (spaces n ++ s) = parseParams s := by
  unfold spaces
  induction n with
  | zero => exact parseParams_sp s
  | succ n ih => rw [List.replicate_succ, List.cons_append, parseParams_sp, ih]

/-- The trailing part of a rendered line. -/
def trPart : Option (Nat × Bytes) → Bytes
  | some (n, t) => spaces n ++ COLON :: t
  | none => []

def trList : Option (Nat × Bytes) → List Bytes
  | some (_, t) => [t]
  | none => []

theorem spLead_trPart (tr : Option (Nat × Bytes)) : SpLead (trPart tr) := by
  rcases tr with _ | ⟨n, t⟩
  · exact spLead_nil
  · exact spLead_spaces_append n _

theorem parseParams_render (tr : Option (Nat × Bytes)) : ∀ (ms : List (Nat × Bytes)),
    (∀ m ∈ ms, WkMid m.2) → parseParams (renderMiddles ms ++ trPart tr) = ms.map (·.2) ++ trList tr
  | [], _ => by
    rcases tr with _ | ⟨n, t⟩
    · rfl
    · exact (parseParams_spaces n _).trans (parseParams_colon t)
  | (k, tok) :: ms, h => by
    rw [renderMiddles, List.append_assoc, List.append_assoc, parseParams_spaces,
      parseParams_tok_lead tok _ (h _ List.mem_cons_self)
        (spLead_renderMiddles_append ms _ (spLead_trPart tr)),
      parseParams_render tr ms (fun m hm => h m (List.mem_cons_of_mem _ hm))]
    rfl

end Girc.Proofs.ParseParams
