import Girc.Spec.SplitSpec
import Girc.Proofs.Utf8
/-
  The packing step of the splitter on plain text: `trackWord` is the identity, `cutLen` cuts at a rune
  boundary within the room, `packWord_cases` is the case analysis of `packWord` with no pending codes, and
  `splitLoop_plain` the induction along the word loop that the C11 theorems are instances of.
-/
namespace Girc.Proofs.SplitPack
open Girc Girc.Model Girc.Spec Girc.Proofs.Utf8 Girc.Proofs.RoundtripUtf8 Girc.Proofs.SplitUtf8

theorem lastColorIn_none : ∀ (fuel : Nat) (w : Bytes), (0x03 : Byte) ∉ w → lastColorIn fuel w none = none
  | 0, _, _ => rfl
  | _ + 1, [], _ => rfl
  | fuel + 1, b :: rest, h => by
    have hb : b ≠ 0x03 := fun e => h (by simp [e])
    have hr : (0x03 : Byte) ∉ rest := fun e => h (by simp [e])
    simp only [lastColorIn, hb, if_false]
    exact lastColorIn_none fuel rest hr

theorem trackWord_plain (w : Bytes) (h : hasCodeByte w = false) : trackWord {} w = {} := by
  have hall : ∀ b ∈ w, ¬ codeBytes.contains b = true := List.any_eq_false.mp h
  have h3 : (0x03 : Byte) ∉ w := fun hm => hall _ hm (by decide)
  unfold trackWord
  rw [lastColorIn_none _ _ h3, List.filter_eq_nil_iff.mpr hall]
  rfl

def runeSize (w : Bytes) : Nat := match utf8Width w with | some k => k | none => 1

theorem runeSize_bounds (w : Bytes) : 1 ≤ runeSize w ∧ runeSize w ≤ 4 := by
  unfold runeSize
  cases h : utf8Width w with
  | none => simp
  | some k => have := utf8Width_bounds h; simp; omega

theorem cutLenAux_succ (fuel : Nat) (b : Byte) (r : Bytes) (left cut : Nat) :
    cutLenAux (fuel + 1) (b :: r) left cut =
      if cut + runeSize (b :: r) > left && cut > 0 then cut
      else if cut + runeSize (b :: r) ≥ left then cut + runeSize (b :: r)
      else cutLenAux fuel ((b :: r).drop (runeSize (b :: r))) left (cut + runeSize (b :: r)) := rfl

theorem cutLenAux_le (left : Nat) (hl : 4 ≤ left) : ∀ (fuel : Nat) (w : Bytes) (cut : Nat), cut ≤ left →
    cutLenAux fuel w left cut ≤ left
  | 0, _, _, h => h
  | _ + 1, [], _, h => h
  | fuel + 1, b :: r, cut, h => by
    rw [cutLenAux_succ]
    have hs := runeSize_bounds (b :: r)
    split
    · exact h
    · rename_i h1
      split
      · simp only [Bool.and_eq_true, decide_eq_true_eq, not_and] at h1
        omega
      · exact cutLenAux_le left hl fuel _ _ (by omega)

theorem cutLen_le (word : Bytes) (left : Nat) (hl : 4 ≤ left) : cutLen word left ≤ left :=
  cutLenAux_le left hl _ _ _ (Nat.zero_le _)

theorem cutLenAux_valid (left : Nat) : ∀ (fuel : Nat) (w : Bytes) (cut : Nat), Valid w →
    ∃ k, cutLenAux fuel w left cut = cut + k ∧ k ≤ w.length ∧ Valid (w.take k) ∧ Valid (w.drop k) ∧
      (w ≠ [] → 0 < fuel → cut = 0 → 1 ≤ k)
  | 0, w, cut, hv => ⟨0, rfl, Nat.zero_le _, Valid.nil, hv, fun _ h => absurd h (Nat.lt_irrefl _)⟩
  | _ + 1, [], cut, hv => ⟨0, rfl, Nat.zero_le _, Valid.nil, hv, fun h => absurd rfl h⟩
  | fuel + 1, b :: r, cut, hv => by
    rw [cutLenAux_succ]
    obtain ⟨sz, hsz, hrest⟩ := hv.uncons (by simp)
    have hrs : runeSize (b :: r) = sz := by simp [runeSize, hsz]
    have hb := utf8Width_bounds hsz
    rw [hrs]
    split
    · rename_i h1
      refine ⟨0, rfl, Nat.zero_le _, Valid.nil, hv, ?_⟩
      intro _ _ hc
      simp only [Bool.and_eq_true, decide_eq_true_eq] at h1
      omega
    · split
      · exact ⟨sz, rfl, hb.2.2, Valid.rune hsz, hrest, fun _ _ _ => hb.1⟩
      · obtain ⟨k, hk, hkl, hkt, hkd, _⟩ := cutLenAux_valid left fuel ((b :: r).drop sz) (cut + sz) hrest
        refine ⟨sz + k, by rw [hk]; omega, ?_, ?_, ?_, fun _ _ _ => by omega⟩
        · simp only [List.length_drop] at hkl; omega
        · rw [List.take_add]
          exact (Valid.rune hsz).append hkt
        · rw [← List.drop_drop]; exact hkd

theorem cutLen_valid (word : Bytes) (left : Nat) (hv : Valid word) (hne : word ≠ []) :
    1 ≤ cutLen word left ∧ cutLen word left ≤ word.length ∧
      Valid (word.take (cutLen word left)) ∧ Valid (word.drop (cutLen word left)) := by
  obtain ⟨k, hk, hkl, hkt, hkd, hpos⟩ := cutLenAux_valid left (word.length + 1) word 0 hv
  have : cutLen word left = k := by unfold cutLen; rw [hk]; omega
  rw [this]
  exact ⟨hpos hne (by omega) rfl, hkl, hkt, hkd⟩

def sepOf (cur : Bytes) : Bytes := if cur.isEmpty then [] else [SP]

theorem sepOf_ne {cur : Bytes} (h : cur ≠ []) : sepOf cur = [SP] :=
  if_neg (by rw [List.isEmpty_eq_false_iff.mpr h]; exact Bool.false_ne_true)

/-- The symbol cut `checkappend` takes when the line has content: after the first symbol byte of the
    word, if more than three bytes come before it, something comes after it, and that much fits. -/
def symSplit (w : Nat) (cur word : Bytes) : Option Nat :=
  match word.findIdx? (fun b => symbolBytes.contains b) with
  | some j => if j > 3 && j + 1 < word.length && cur.length + (sepOf cur).length + j + 1 ≤ w then some j else none
  | none => none

theorem symSplit_some {w : Nat} {cur word : Bytes} {j : Nat} (h : symSplit w cur word = some j) :
    j + 1 < word.length ∧ cur.length + (sepOf cur).length + j + 1 ≤ w ∧
      ∃ b, word[j]? = some b ∧ symbolBytes.contains b = true := by
  unfold symSplit at h
  cases hf : word.findIdx? (fun b => symbolBytes.contains b) with
  | none => rw [hf] at h; cases h
  | some j' =>
    rw [hf] at h
    dsimp only at h
    by_cases hc : (decide (j' > 3) && decide (j' + 1 < word.length) &&
        decide (cur.length + (sepOf cur).length + j' + 1 ≤ w)) = true
    · rw [if_pos hc] at h
      cases h
      simp only [Bool.and_eq_true, decide_eq_true_eq] at hc
      obtain ⟨hlt, hp, _⟩ := List.findIdx?_eq_some_iff_getElem.mp hf
      exact ⟨hc.1.2, hc.2, word[j], List.getElem?_eq_getElem hlt, hp⟩
    · rw [if_neg hc] at h; cases h

/-- The hard cut of `checkappend`: whole runes of the word, as many as the room left on the line takes. -/
def cutStep (isURL : Bytes → Bool) (w fuel : Nat) (front : List Bytes) (cur word : Bytes) : List Bytes :=
  let cut := cutLen word (w - cur.length - (sepOf cur).length)
  if (word.drop cut).isEmpty then front ++ [cur ++ sepOf cur ++ word.take cut]
  else packWord isURL w [] fuel (front ++ [cur ++ sepOf cur ++ word.take cut] ++ [[]]) (word.drop cut)

theorem packWord_succ (isURL : Bytes → Bool) (w fuel : Nat) (front : List Bytes) (cur word : Bytes) :
    packWord isURL w [] (fuel + 1) (front ++ [cur]) word =
      if cur.length + (sepOf cur).length + word.length ≤ w then front ++ [cur ++ sepOf cur ++ word]
      else if cur = [] then cutStep isURL w fuel front cur word
      else if 1 + word.length ≤ w && isURL word then
        packWord isURL w [] fuel (front ++ [cur] ++ [[]]) word
      else match symSplit w cur word with
        | some j =>
          packWord isURL w [] fuel (front ++ [cur ++ sepOf cur ++ word.take (j + 1)]) (word.drop (j + 1))
        | none =>
          if 1 + word.length ≤ 30 || w - cur.length ≤ 5 then
            packWord isURL w [] fuel (front ++ [cur] ++ [[]]) word
          else cutStep isURL w fuel front cur word := by
  rw [packWord]
  unfold cutStep symSplit
  by_cases hce : cur = []
  · subst hce
    simp only [List.getLastD_concat, List.dropLast_concat, List.isEmpty_nil, Bool.not_true, Bool.false_and,
      Bool.false_eq_true, if_false, if_true]
    rfl
  · have hie : cur.isEmpty = false := List.isEmpty_eq_false_iff.mpr hce
    have hne : (cur != []) = true := bne_iff_ne.mpr hce
    simp only [List.getLastD_concat, List.dropLast_concat, sepOf_ne hce, hie, hne, hce, Bool.not_false,
      Bool.true_and, if_true, Bool.false_eq_true, if_false, List.length_nil, Nat.zero_add,
      List.length_singleton]
    rfl

theorem mem_concat {α : Type} {P : α → Prop} (front : List α) (x : α) (hf : ∀ l ∈ front, P l) (hx : P x) :
    ∀ l ∈ front ++ [x], P l :=
  List.forall_mem_append.mpr ⟨hf, List.forall_mem_singleton.mpr hx⟩

/-- Case analysis of `packWord`: it fits; a new line is started; the line is filled up to a symbol; or
    the word is cut at a rune boundary and the rest goes to a new line. -/
theorem packWord_cases (isURL : Bytes → Bool) (w : Nat) (hw : 4 ≤ w)
    (P : Nat → List Bytes → Bytes → Bytes → List Bytes → Prop)
    (h0 : ∀ front cur word, P 0 front cur word (front ++ [cur]))
    (hfit : ∀ fuel front cur word, cur.length + (sepOf cur).length + word.length ≤ w →
      P (fuel + 1) front cur word (front ++ [cur ++ sepOf cur ++ word]))
    (hnew : ∀ fuel front cur word r, cur ≠ [] → P fuel (front ++ [cur]) [] word r → P (fuel + 1) front cur word r)
    (hsym : ∀ fuel front cur word j r, j + 1 < word.length → cur.length + (sepOf cur).length + j + 1 ≤ w →
      (∃ b, word[j]? = some b ∧ symbolBytes.contains b = true) →
      P fuel front (cur ++ sepOf cur ++ word.take (j + 1)) (word.drop (j + 1)) r → P (fuel + 1) front cur word r)
    (hcut : ∀ fuel front cur word cut r, cut = cutLen word (w - cur.length - (sepOf cur).length) →
      cur.length + (sepOf cur).length + cut ≤ w → word.drop cut ≠ [] →
      P fuel (front ++ [cur ++ sepOf cur ++ word.take cut]) [] (word.drop cut) r → P (fuel + 1) front cur word r) :
    ∀ fuel front cur word, P fuel front cur word (packWord isURL w [] fuel (front ++ [cur]) word)
  | 0, front, cur, word => h0 front cur word
  | fuel + 1, front, cur, word => by
    have ih := packWord_cases isURL w hw P h0 hfit hnew hsym hcut fuel
    rw [packWord_succ]
    by_cases hf : cur.length + (sepOf cur).length + word.length ≤ w
    · rw [if_pos hf]
      exact hfit _ _ _ _ hf
    rw [if_neg hf]
    -- a cut that takes the whole word would have fitted
    have hcut' : 4 ≤ w - cur.length - (sepOf cur).length →
        P (fuel + 1) front cur word (cutStep isURL w fuel front cur word) := by
      intro hl
      have hle := cutLen_le word _ hl
      unfold cutStep
      by_cases hd : (word.drop (cutLen word (w - cur.length - (sepOf cur).length))).isEmpty = true
      · have := List.drop_eq_nil_iff.mp (List.isEmpty_iff.mp hd)
        omega
      · rw [if_neg hd]
        exact hcut _ _ _ _ _ _ rfl (by omega) (mt List.isEmpty_iff.mpr hd) (ih _ _ _)
    by_cases hce : cur = []
    · rw [if_pos hce]
      exact hcut' (by rw [hce]; exact hw)
    rw [if_neg hce]
    have hs : (sepOf cur).length = 1 := by rw [sepOf_ne hce]; rfl
    by_cases hu : (decide (1 + word.length ≤ w) && isURL word) = true
    · rw [if_pos hu]
      exact hnew _ _ _ _ _ hce (ih _ _ _)
    rw [if_neg hu]
    cases hj : symSplit w cur word with
    | some j =>
      obtain ⟨hjl, hjw, hb⟩ := symSplit_some hj
      exact hsym _ _ _ _ _ _ hjl hjw hb (ih _ _ _)
    | none =>
      dsimp only
      by_cases hshort : (decide (1 + word.length ≤ 30) || decide (w - cur.length ≤ 5)) = true
      · rw [if_pos hshort]
        exact hnew _ _ _ _ _ hce (ih _ _ _)
      · rw [if_neg hshort]
        simp only [Bool.or_eq_true, decide_eq_true_eq, not_or] at hshort
        exact hcut' (by omega)

theorem packWord_ne_nil (isURL : Bytes → Bool) (w : Nat) (hw : 4 ≤ w) (fuel : Nat) (front : List Bytes)
    (cur word : Bytes) : packWord isURL w [] fuel (front ++ [cur]) word ≠ [] := by
  refine packWord_cases isURL w hw (fun _ _ _ _ r => r ≠ []) ?_ ?_ ?_ ?_ ?_ fuel front cur word
  · intro front cur _; exact List.concat_ne_nil cur front
  · intro _ front cur word _; exact List.concat_ne_nil _ front
  · intro _ _ _ _ _ _ ih; exact ih
  · intro _ _ _ _ _ _ _ _ _ ih; exact ih
  · intro _ _ _ _ _ _ _ _ _ ih; exact ih

/-- An invariant `I done out` of the word loop (`done` = the words consumed so far) is kept along code-free
    words if it is kept by a skipped line break, by a line break, and by packing one word. -/
theorem splitLoop_plain (isURL : Bytes → Bool) (w : Nat) (hw : 4 ≤ w) (Q : Bytes → Prop)
    (I : List Bytes → List Bytes → Prop)
    (hskip : ∀ d out, I d out → I (d ++ [[]]) out)
    (hbreak : ∀ d out, I d out → I (d ++ [[]]) (out ++ [[]]))
    (hword : ∀ d front cur word, word ≠ [] → Q word → I d (front ++ [cur]) →
      I (d ++ [word]) (packWord isURL w [] (2 * word.length + 4) (front ++ [cur]) word)) :
    ∀ (words d out : List Bytes), (∀ wd ∈ words, hasCodeByte wd = false ∧ Q wd) → out ≠ [] → I d out →
      I (d ++ words) (splitLoop isURL w words {} out)
  | [], d, out, _, _, h => by rw [List.append_nil]; exact h
  | word :: rest, d, out, hws, hne, h => by
    have hrest : ∀ wd ∈ rest, hasCodeByte wd = false ∧ Q wd := fun wd hm => hws wd (List.mem_cons_of_mem _ hm)
    have ih := splitLoop_plain isURL w hw Q I hskip hbreak hword rest
    rw [List.append_cons, splitLoop]
    by_cases hwe : word.isEmpty = true
    · rw [if_pos hwe, List.isEmpty_iff.mp hwe]
      dsimp only
      by_cases hc : ((out.getLastD []).isEmpty || decide (out.getLastD [] = FmtState.lastColor {})) = true
      · rw [if_pos hc]
        exact ih _ out hrest hne (hskip d out h)
      · rw [if_neg hc]
        exact ih _ _ hrest (List.concat_ne_nil _ out) (hbreak d out h)
    · rw [if_neg hwe]
      obtain ⟨hcode, hq⟩ := hws word List.mem_cons_self
      obtain ⟨front, cur, rfl⟩ : ∃ front cur, out = front ++ [cur] :=
        ⟨_, _, (List.dropLast_concat_getLast hne).symm⟩
      simp only [trackWord_plain word hcode]
      exact ih _ _ hrest (packWord_ne_nil isURL w hw _ front cur word)
        (hword d front cur word (mt List.isEmpty_iff.mpr hwe) hq h)

end Girc.Proofs.SplitPack
