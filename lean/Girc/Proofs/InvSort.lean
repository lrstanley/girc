import Girc.Spec.Inv
/-
  Strictly sorted lists of byte strings. `bytesLt` is `<` on `List UInt8` (`bytesLt_iff_lt`) and `sortedStrict`
  is `Pairwise bytesLt` (`sortedStrict_iff_pairwise`); with that, `insertSorted` / `sortBytes` / `appendSort` /
  `List.erase` are handled through permutations and the core `List` lemmas. Then `fold` and `folded`.
-/
namespace Girc.Proofs.InvBase
open Girc Girc.Model Girc.Spec

theorem bytesLt_nil_cons (b : UInt8) (bs : Bytes) : bytesLt [] (b :: bs) = true := rfl
theorem bytesLt_nil_right (a : Bytes) : bytesLt a [] = false := by cases a <;> rfl

theorem bytesLt_cons_cons (a b : UInt8) (as bs : Bytes) :
    bytesLt (a :: as) (b :: bs) = if a < b then true else if b < a then false else bytesLt as bs := rfl

theorem bytesLt_iff_lt (a b : Bytes) : bytesLt a b = true ↔ a < b := by
  induction a generalizing b with
  | nil =>
    cases b with
    | nil => exact ⟨(fun h => nomatch h), (fun h => nomatch h)⟩
    | cons y ys => exact ⟨fun _ => List.nil_lt_cons y ys, fun _ => rfl⟩
  | cons x xs ih =>
    cases b with
    | nil => exact ⟨(fun h => nomatch h), (fun h => nomatch h)⟩
    | cons y ys =>
      rw [List.cons_lt_cons_iff, ← ih, bytesLt_cons_cons]
      by_cases hxy : x < y
      · rw [if_pos hxy]; exact ⟨fun _ => Or.inl hxy, fun _ => rfl⟩
      · rw [if_neg hxy]
        by_cases hyx : y < x
        · rw [if_pos hyx]
          exact ⟨(fun h => nomatch h), fun h => h.elim (fun h => absurd h hxy) (fun h => absurd (h.1 ▸ hyx) hxy)⟩
        · rw [if_neg hyx]
          have e : x = y := UInt8.le_antisymm (UInt8.not_lt.mp hyx) (UInt8.not_lt.mp hxy)
          exact ⟨fun h => Or.inr ⟨e, h⟩, fun h => h.elim (fun h => absurd h hxy) (fun h => h.2)⟩

theorem bytesLt_irrefl (a : Bytes) : bytesLt a a = false := by
  rw [← Bool.not_eq_true, bytesLt_iff_lt]; exact List.lt_irrefl a

theorem bytesLt_trans {a b c : Bytes} (h1 : bytesLt a b = true) (h2 : bytesLt b c = true) :
    bytesLt a c = true := by
  rw [bytesLt_iff_lt] at *; exact List.lt_trans h1 h2

theorem bytesLt_asymm {a b : Bytes} (h : bytesLt a b = true) : bytesLt b a = false := by
  rw [← Bool.not_eq_true]; rw [bytesLt_iff_lt] at *; exact List.lt_asymm h

theorem bytesLt_ne {a b : Bytes} (h : bytesLt a b = true) : a ≠ b := by
  intro e; subst e; rw [bytesLt_irrefl] at h; cases h

theorem bytesLe_iff (a b : Bytes) : bytesLe a b = true ↔ bytesLt a b = true ∨ a = b := by
  unfold bytesLe
  rw [Bool.not_eq_eq_eq_not, Bool.not_true, ← Bool.not_eq_true, bytesLt_iff_lt, bytesLt_iff_lt]
  exact List.le_iff_lt_or_eq

theorem bytesLe_refl (a : Bytes) : bytesLe a a = true := (bytesLe_iff a a).mpr (Or.inr rfl)

theorem not_bytesLe_iff (a b : Bytes) : bytesLe a b = false ↔ bytesLt b a = true := by
  unfold bytesLe; rw [Bool.not_eq_eq_eq_not, Bool.not_false]

theorem sortedStrict_nil : sortedStrict [] = true := rfl
theorem sortedStrict_singleton (a : Bytes) : sortedStrict [a] = true := rfl
theorem sortedStrict_cons_cons (a b : Bytes) (l : List Bytes) :
    sortedStrict (a :: b :: l) = (bytesLt a b && sortedStrict (b :: l)) := rfl

theorem sortedStrict_iff_pairwise (l : List Bytes) :
    sortedStrict l = true ↔ l.Pairwise (fun a b => bytesLt a b = true) := by
  induction l with
  | nil => exact ⟨fun _ => List.Pairwise.nil, fun _ => rfl⟩
  | cons a l ih =>
    cases l with
    | nil => exact ⟨fun _ => List.pairwise_singleton _ _, fun _ => rfl⟩
    | cons b l =>
      rw [sortedStrict_cons_cons, Bool.and_eq_true, ih, List.pairwise_cons (l := b :: l)]
      constructor
      · rintro ⟨hab, hp⟩
        refine ⟨?_, hp⟩
        intro c hc
        rcases List.mem_cons.mp hc with rfl | hc
        · exact hab
        · exact bytesLt_trans hab ((List.pairwise_cons.mp hp).1 c hc)
      · rintro ⟨hall, hp⟩
        exact ⟨hall b (List.mem_cons_self), hp⟩

theorem sortedStrict_cons_iff (a : Bytes) (l : List Bytes) :
    sortedStrict (a :: l) = true ↔ (∀ b ∈ l, bytesLt a b = true) ∧ sortedStrict l = true := by
  rw [sortedStrict_iff_pairwise, sortedStrict_iff_pairwise, List.pairwise_cons]

theorem sortedStrict_tail {a : Bytes} {l : List Bytes} (h : sortedStrict (a :: l) = true) :
    sortedStrict l = true := ((sortedStrict_cons_iff a l).mp h).2

theorem sortedStrict_nodup {l : List Bytes} (h : sortedStrict l = true) : l.Nodup :=
  ((sortedStrict_iff_pairwise l).mp h).imp (fun hab => bytesLt_ne hab)

theorem sortedStrict_sublist {l₁ l₂ : List Bytes} (hs : l₁.Sublist l₂) (h : sortedStrict l₂ = true) :
    sortedStrict l₁ = true :=
  (sortedStrict_iff_pairwise l₁).mpr (((sortedStrict_iff_pairwise l₂).mp h).sublist hs)

theorem sortedStrict_ext {l₁ l₂ : List Bytes} (h₁ : sortedStrict l₁ = true) (h₂ : sortedStrict l₂ = true)
    (hm : ∀ x, x ∈ l₁ ↔ x ∈ l₂) : l₁ = l₂ :=
  List.Perm.eq_of_pairwise (le := fun a b => bytesLt a b = true)
    (fun a b _ _ hab hba => by rw [bytesLt_asymm hab] at hba; cases hba)
    ((sortedStrict_iff_pairwise l₁).mp h₁) ((sortedStrict_iff_pairwise l₂).mp h₂)
    ((List.perm_ext_iff_of_nodup (sortedStrict_nodup h₁) (sortedStrict_nodup h₂)).mpr hm)

theorem eraseFirst_eq (l : List Bytes) (x : Bytes) : eraseFirst l x = l.erase x := rfl

theorem mem_erase_of_nodup {l : List Bytes} (h : l.Nodup) (x y : Bytes) :
    y ∈ l.erase x ↔ y ≠ x ∧ y ∈ l := h.mem_erase_iff

theorem mem_erase_of_sortedStrict {l : List Bytes} (h : sortedStrict l = true) (x y : Bytes) :
    y ∈ l.erase x ↔ y ≠ x ∧ y ∈ l := mem_erase_of_nodup (sortedStrict_nodup h) x y

theorem erase_of_not_mem {l : List Bytes} {x : Bytes} (h : x ∉ l) : l.erase x = l :=
  List.erase_of_not_mem h

theorem erase_ne_nil_of_mem_ne {l : List Bytes} (hnd : l.Nodup) {x y : Bytes} (hy : y ∈ l) (hyx : y ≠ x) :
    l.erase x ≠ [] :=
  List.ne_nil_of_mem ((mem_erase_of_nodup hnd x y).mpr ⟨hyx, hy⟩)

theorem length_eq_zero_iff_nil (l : List Bytes) : l.length = 0 ↔ l = [] := List.length_eq_zero_iff

theorem insertSorted_nil (x : Bytes) : insertSorted x [] = [x] := rfl
theorem insertSorted_cons (x y : Bytes) (ys : List Bytes) :
    insertSorted x (y :: ys) = if bytesLe x y then x :: y :: ys else y :: insertSorted x ys := rfl

theorem sortBytes_nil : sortBytes [] = [] := rfl
theorem sortBytes_cons (x : Bytes) (l : List Bytes) : sortBytes (x :: l) = insertSorted x (sortBytes l) := rfl

theorem insertSorted_perm (x : Bytes) (l : List Bytes) : (insertSorted x l).Perm (x :: l) := by
  induction l with
  | nil => exact List.Perm.refl _
  | cons y ys ih =>
    rw [insertSorted_cons]
    split
    · exact List.Perm.refl _
    · exact (List.Perm.cons y ih).trans (List.Perm.swap x y ys)

theorem sortBytes_perm (l : List Bytes) : (sortBytes l).Perm l := by
  induction l with
  | nil => exact List.Perm.refl _
  | cons x xs ih => exact (insertSorted_perm x _).trans (List.Perm.cons x ih)

theorem mem_insertSorted (x y : Bytes) (l : List Bytes) : y ∈ insertSorted x l ↔ y = x ∨ y ∈ l := by
  rw [(insertSorted_perm x l).mem_iff, List.mem_cons]

theorem mem_sortBytes (x : Bytes) (l : List Bytes) : x ∈ sortBytes l ↔ x ∈ l :=
  (sortBytes_perm l).mem_iff

theorem length_insertSorted (x : Bytes) (l : List Bytes) : (insertSorted x l).length = l.length + 1 := by
  rw [(insertSorted_perm x l).length_eq, List.length_cons]

theorem length_sortBytes (l : List Bytes) : (sortBytes l).length = l.length :=
  (sortBytes_perm l).length_eq

theorem sortBytes_eq_nil_iff (l : List Bytes) : sortBytes l = [] ↔ l = [] := by
  rw [← List.length_eq_zero_iff, length_sortBytes, List.length_eq_zero_iff]

theorem nodup_sortBytes (l : List Bytes) : (sortBytes l).Nodup ↔ l.Nodup :=
  (sortBytes_perm l).nodup_iff

theorem appendSort_perm (l : List Bytes) (x : Bytes) : (appendSort l x).Perm (x :: l) :=
  (sortBytes_perm _).trans (List.perm_append_comm (l₁ := l) (l₂ := [x]))

theorem mem_appendSort (l : List Bytes) (x y : Bytes) : y ∈ appendSort l x ↔ y = x ∨ y ∈ l := by
  rw [(appendSort_perm l x).mem_iff, List.mem_cons]

theorem appendSort_ne_nil (l : List Bytes) (x : Bytes) : appendSort l x ≠ [] :=
  List.ne_nil_of_mem ((mem_appendSort l x x).mpr (Or.inl rfl))

theorem sortedStrict_insertSorted {l : List Bytes} {x : Bytes} (h : sortedStrict l = true) (hx : x ∉ l) :
    sortedStrict (insertSorted x l) = true := by
  induction l with
  | nil => rfl
  | cons y ys ih =>
    rw [insertSorted_cons]
    obtain ⟨hall, htail⟩ := (sortedStrict_cons_iff y ys).mp h
    cases hle : bytesLe x y with
    | true =>
      rw [if_pos rfl, sortedStrict_cons_cons, h, Bool.and_true]
      exact ((bytesLe_iff x y).mp hle).resolve_right (fun e => hx (e ▸ List.mem_cons_self))
    | false =>
      rw [if_neg Bool.false_ne_true, sortedStrict_cons_iff]
      refine ⟨?_, ih htail (fun e => hx (List.mem_cons_of_mem _ e))⟩
      intro b hb
      rcases (mem_insertSorted x b ys).mp hb with rfl | hb
      · exact (not_bytesLe_iff _ y).mp hle
      · exact hall b hb

theorem sortedStrict_sortBytes {l : List Bytes} (h : l.Nodup) : sortedStrict (sortBytes l) = true := by
  induction l with
  | nil => rfl
  | cons x xs ih =>
    obtain ⟨hx, hxs⟩ := List.nodup_cons.mp h
    exact sortedStrict_insertSorted (ih hxs) (fun hm => hx ((mem_sortBytes x xs).mp hm))

theorem sortedStrict_sortBytes_iff (l : List Bytes) : sortedStrict (sortBytes l) = true ↔ l.Nodup :=
  ⟨fun h => (nodup_sortBytes l).mp (sortedStrict_nodup h), sortedStrict_sortBytes⟩

theorem sortBytes_of_sortedStrict {l : List Bytes} (h : sortedStrict l = true) : sortBytes l = l :=
  sortedStrict_ext (sortedStrict_sortBytes (sortedStrict_nodup h)) h (fun x => mem_sortBytes x l)

theorem sortedStrict_appendSort {l : List Bytes} {x : Bytes} (h : sortedStrict l = true) (hx : x ∉ l) :
    sortedStrict (appendSort l x) = true :=
  sortedStrict_sortBytes ((List.perm_append_comm (l₁ := l) (l₂ := [x])).nodup_iff.mpr
    (List.nodup_cons.mpr ⟨hx, sortedStrict_nodup h⟩))

theorem appendSort_spec {l : List Bytes} {x : Bytes} (h : sortedStrict l = true) (hx : x ∉ l) :
    sortedStrict (appendSort l x) = true ∧ ∀ y, y ∈ appendSort l x ↔ y = x ∨ y ∈ l :=
  ⟨sortedStrict_appendSort h hx, mem_appendSort l x⟩

theorem appendSort_eq_insertSorted {l : List Bytes} {x : Bytes} (h : sortedStrict l = true) (hx : x ∉ l) :
    appendSort l x = insertSorted x l :=
  sortedStrict_ext (sortedStrict_appendSort h hx) (sortedStrict_insertSorted h hx)
    (fun y => by rw [mem_appendSort, mem_insertSorted])

theorem list_contains_iff_mem (l : List Bytes) (x : Bytes) : l.contains x = true ↔ x ∈ l := List.contains_iff_mem

theorem list_contains_eq_false_iff (l : List Bytes) (x : Bytes) : l.contains x = false ↔ x ∉ l := by
  rw [← list_contains_iff_mem, Bool.not_eq_true]

theorem fold1_idem : ∀ b : UInt8, fold1 (fold1 b) = fold1 b := by decide +kernel

theorem fold_idem (s : Bytes) : fold (fold s) = fold s := by
  unfold fold
  rw [List.map_map]
  exact List.map_congr_left (fun b _ => fold1_idem b)

theorem fold_nil : fold [] = [] := rfl
theorem fold_eq_nil_iff (s : Bytes) : fold s = [] ↔ s = [] := List.map_eq_nil_iff
theorem length_fold (s : Bytes) : (fold s).length = s.length := List.length_map _

theorem folded_iff (l : List Bytes) : folded l = true ↔ ∀ x ∈ l, fold x = x := by
  unfold folded
  rw [List.all_eq_true]
  exact forall₂_congr (fun _ _ => beq_iff_eq)

theorem folded_nil : folded [] = true := rfl

theorem folded_mem {l : List Bytes} (h : folded l = true) {x : Bytes} (hx : x ∈ l) : fold x = x :=
  (folded_iff l).mp h x hx

theorem folded_of_subset {l₁ l₂ : List Bytes} (hs : ∀ x ∈ l₁, x ∈ l₂) (h : folded l₂ = true) :
    folded l₁ = true :=
  (folded_iff l₁).mpr (fun x hx => folded_mem h (hs x hx))

theorem folded_sortBytes (l : List Bytes) : folded (sortBytes l) = true ↔ folded l = true :=
  ⟨folded_of_subset (fun x hx => (mem_sortBytes x l).mpr hx),
   folded_of_subset (fun x hx => (mem_sortBytes x l).mp hx)⟩

theorem folded_cons (x : Bytes) (l : List Bytes) :
    folded (x :: l) = true ↔ fold x = x ∧ folded l = true := by
  rw [folded_iff, folded_iff, List.forall_mem_cons]

theorem folded_appendSort_iff (l : List Bytes) (x : Bytes) :
    folded (appendSort l x) = true ↔ fold x = x ∧ folded l = true := by
  rw [← folded_cons]
  exact ⟨folded_of_subset (fun y hy => (mem_appendSort l x y).mpr (List.mem_cons.mp hy)),
    folded_of_subset (fun y hy => List.mem_cons.mpr ((mem_appendSort l x y).mp hy))⟩

theorem folded_appendSort_fold {l : List Bytes} (x : Bytes) (h : folded l = true) :
    folded (appendSort l (fold x)) = true :=
  (folded_appendSort_iff l (fold x)).mpr ⟨fold_idem x, h⟩

end Girc.Proofs.InvBase
