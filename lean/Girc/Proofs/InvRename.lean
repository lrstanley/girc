import Girc.Proofs.InvDelete
/-
  `renameUser` never faults on a consistent state and keeps it consistent. One iteration of its loop applies
  `renameChan` to a channel; the move of the user to its new key, on the two maps, is `invL_rename`;
  `renameUser` itself is the own-nick update followed by `renameTail`, which first deletes a user that is
  already tracked under the new key.
-/
namespace Girc.Proofs.InvRename
open Girc Girc.Model Girc.Spec Girc.Proofs.InvBase

theorem replaceFirst_nil (a b : Bytes) : replaceFirst [] a b = [] := rfl

theorem replaceFirst_cons (x : Bytes) (xs : List Bytes) (a b : Bytes) :
    replaceFirst (x :: xs) a b = if x = a then b :: xs else x :: replaceFirst xs a b := rfl

theorem replaceFirst_perm {l : List Bytes} {a : Bytes} (ha : a ∈ l) (b : Bytes) :
    (replaceFirst l a b).Perm (b :: l.erase a) := by
  induction l with
  | nil => cases ha
  | cons y ys ih =>
    rw [replaceFirst_cons]
    by_cases hya : y = a
    · rw [if_pos hya, hya, List.erase_cons_head]
    · rw [if_neg hya, List.erase_cons_tail (by rwa [beq_iff_eq])]
      exact ((ih ((List.mem_cons.mp ha).resolve_left (Ne.symm hya))).cons y).trans (List.Perm.swap b y _)

theorem mem_replaceFirst {l : List Bytes} (hnd : l.Nodup) {a : Bytes} (ha : a ∈ l) (b x : Bytes) :
    x ∈ replaceFirst l a b ↔ x = b ∨ (x ≠ a ∧ x ∈ l) := by
  rw [(replaceFirst_perm ha b).mem_iff, List.mem_cons, hnd.mem_erase_iff]

theorem nodup_replaceFirst {l : List Bytes} (hnd : l.Nodup) {a b : Bytes} (ha : a ∈ l) (hb : b = a ∨ b ∉ l) :
    (replaceFirst l a b).Nodup := by
  rw [(replaceFirst_perm ha b).nodup_iff, List.nodup_cons, hnd.mem_erase_iff]
  exact ⟨fun h => hb.elim h.1 (fun hb => hb h.2), hnd.erase a⟩

/-- What one iteration of the `renameUser` loop does to a channel. -/
def renameChan (from_ to : Bytes) (ch : Channel) : Channel :=
  if ch.users.contains from_ then { ch with users := sortBytes (replaceFirst ch.users from_ (fold to)) } else ch

theorem renameChan_name (from_ to : Bytes) (ch : Channel) : (renameChan from_ to ch).name = ch.name := by
  unfold renameChan; split <;> rfl

theorem renameChan_users_of_mem {from_ : Bytes} (to : Bytes) {ch : Channel} (h : from_ ∈ ch.users) :
    (renameChan from_ to ch).users = sortBytes (replaceFirst ch.users from_ (fold to)) := by
  unfold renameChan
  rw [if_pos ((list_contains_iff_mem _ _).mpr h)]

theorem renameChan_of_not_mem {from_ : Bytes} (to : Bytes) {ch : Channel} (h : from_ ∉ ch.users) :
    renameChan from_ to ch = ch := by
  unfold renameChan
  rw [if_neg (by rw [list_contains_iff_mem]; exact h)]

theorem mem_renameChan_users {ch : Channel} (hnd : ch.users.Nodup) (from_ to x : Bytes) :
    x ∈ (renameChan from_ to ch).users ↔ (x = fold to ∧ from_ ∈ ch.users) ∨ (x ≠ from_ ∧ x ∈ ch.users) := by
  by_cases hf : from_ ∈ ch.users
  · rw [renameChan_users_of_mem to hf, mem_sortBytes, mem_replaceFirst hnd hf, and_iff_left hf]
  · rw [renameChan_of_not_mem to hf]
    exact ⟨fun hx => Or.inr ⟨fun e => hf (e ▸ hx), hx⟩, fun h => h.elim (fun h => absurd h.2 hf) (fun h => h.2)⟩

theorem entryOK_renameChan {k from_ to : Bytes} {ch : Channel} (h : EntryOK k ch.name ch.users)
    (hb : fold to = from_ ∨ fold to ∉ ch.users) :
    EntryOK k (renameChan from_ to ch).name (renameChan from_ to ch).users := by
  have hnd := sortedStrict_nodup h.2.1
  refine ⟨renameChan_name from_ to ch ▸ h.1, ?_, (folded_iff _).mpr fun x hx => ?_⟩
  · by_cases hf : from_ ∈ ch.users
    · rw [renameChan_users_of_mem to hf]
      exact sortedStrict_sortBytes (nodup_replaceFirst hnd hf hb)
    · rw [renameChan_of_not_mem to hf]; exact h.2.1
  · rcases (mem_renameChan_users hnd from_ to x).mp hx with ⟨e, _⟩ | ⟨_, hx⟩
    · rw [e]; exact fold_idem to
    · exact folded_mem h.2.2 hx

theorem renameLoop_nil (from_ to : Bytes) (cs : AMap Channel) : renameLoop from_ to [] cs = .ok cs := rfl

theorem renameLoop_cons_some (from_ to c : Bytes) (rest : List Bytes) (cs : AMap Channel) (ch : Channel)
    (h : AMap.get? cs c = some ch) :
    renameLoop from_ to (c :: rest) cs = renameLoop from_ to rest (AMap.set cs c (renameChan from_ to ch)) := by
  rw [renameLoop, h]
  rfl

theorem renameLoop_spec (from_ to : Bytes) (l : List Bytes) :
    ∀ cs : AMap Channel, l.Nodup → (∀ c ∈ l, ∃ ch, AMap.get? cs c = some ch) →
      ∃ cs', renameLoop from_ to l cs = .ok cs' ∧ AMap.keys cs' = AMap.keys cs ∧
        ∀ k, AMap.get? cs' k = if k ∈ l then (AMap.get? cs k).map (renameChan from_ to) else AMap.get? cs k := by
  intro cs hl hex
  obtain ⟨cs', hrun, hkeys, hget⟩ := InvDelete.loop_spec (g := fun ch => some (renameChan from_ to ch))
    (I := fun m => AMap.keys m = AMap.keys cs) (renameLoop_nil from_ to) (renameLoop_cons_some from_ to)
    (fun m k _ x => get?_set m k x _)
    (fun m k _ hv hm => (keys_set_of_mem m _ (get?_some_mem_keys hv)).trans hm) l cs hl hex rfl
  refine ⟨cs', hrun, hkeys, fun k => ?_⟩
  rw [hget]
  split
  · cases AMap.get? cs k <;> rfl
  · rfl

/-- `renameChan` leaves a channel that does not list the user alone, so the loop of `renameUser` is a
    plain map over the channels. -/
theorem renamed_get? {cs cs' : AMap Channel} {us : AMap User} (h : InvL cs us) {from_ to : Bytes} {user : User}
    (hu : AMap.get? us from_ = some user)
    (hget : ∀ k, AMap.get? cs' k =
      if k ∈ user.chans then (AMap.get? cs k).map (renameChan from_ to) else AMap.get? cs k) (k : Bytes) :
    AMap.get? cs' k = (AMap.get? cs k).map (renameChan from_ to) := by
  rw [hget]
  split
  · rfl
  · next hk =>
    cases hc : AMap.get? cs k with
    | none => rfl
    | some ch =>
      rw [Option.map_some, renameChan_of_not_mem to fun hm => hk ((h.mem_users_iff_mem_chans hc hu).mp hm)]

/-- The core step of `renameUser` in lookup form: the user stored under `from_` moves to the key
    `fold to` (which is either the same key or unused), and `renameChan` is applied to exactly the
    channels the user lists. -/
theorem invL_rename {cs cs' : AMap Channel} {us : AMap User} (h : InvL cs us) {from_ to : Bytes} {user : User}
    (hu : AMap.get? us from_ = some user)
    (ht : fold to = from_ ∨ AMap.get? us (fold to) = none)
    (hkeys : AMap.keys cs' = AMap.keys cs)
    (hget : ∀ k, AMap.get? cs' k =
      if k ∈ user.chans then (AMap.get? cs k).map (renameChan from_ to) else AMap.get? cs k) :
    InvL cs' (AMap.set (AMap.erase us from_) (fold to) { user with nick := to }) := by
  obtain ⟨h1, h2, hC, hU, hE⟩ := invL_iff.mp h
  have hget' := renamed_get? h hu hget
  -- nobody else is listed under the new key
  have hfree : ∀ k, listed us User.chans (fold to) k → fold to = from_ := by
    rintro k ⟨u, hv, _⟩
    exact ht.elim id (fun hn => nomatch hn.symm.trans hv)
  refine invL_iff.mpr ⟨hkeys ▸ h1, keys_set_nodup (keys_erase_nodup h2 from_) _ _, ?_, ?_, ?_⟩
  · intro k ch' hk
    rw [hget'] at hk
    obtain ⟨ch, hc, rfl⟩ := Option.map_eq_some_iff.mp hk
    refine entryOK_renameChan (hC k ch hc) (ht.imp_right fun hn hm => ?_)
    obtain ⟨u, hv, _⟩ := (hE k _).mp ⟨ch, hc, hm⟩
    exact nomatch hn.symm.trans hv
  · intro n u hn
    rcases (get?_set_eq_some_iff _ _ _ _ _).mp hn with ⟨rfl, rfl⟩ | ⟨_, hn⟩
    · exact ⟨⟨rfl, (hU from_ user hu).1.2⟩, (hU from_ user hu).2⟩
    · exact hU n u ((get?_erase_eq_some_iff _ _ _ _).mp hn).2
  · intro k x
    rw [listed_set, listed_erase, ← hE, listed_of_map hget']
    show _ ↔ (x = fold to ∧ k ∈ user.chans) ∨ _
    rw [← listed_of_get hu k, ← hE]
    constructor
    · rintro ⟨ch, hc, hx⟩
      rcases (mem_renameChan_users (h.users_nodup hc) from_ to x).mp hx with ⟨e, hf⟩ | ⟨hne, hx⟩
      · exact Or.inl ⟨e, ch, hc, hf⟩
      · refine Or.inr ⟨fun e => hne ((hfree k ((hE k _).mp (e ▸ ⟨ch, hc, hx⟩))) ▸ e), hne, ch, hc, hx⟩
    · rintro (⟨e, ch, hc, hf⟩ | ⟨_, hne, ch, hc, hx⟩)
      · exact ⟨ch, hc, (mem_renameChan_users (h.users_nodup hc) from_ to x).mpr (Or.inl ⟨e, hf⟩)⟩
      · exact ⟨ch, hc, (mem_renameChan_users (h.users_nodup hc) from_ to x).mpr (Or.inr ⟨hne, hx⟩)⟩

/-- The part of `renameUser` after the own-nick update. -/
def renameTail (s : St) (from_ to : Bytes) : M St :=
  match AMap.get? s.users from_ with
  | none => .ok s
  | some user => do
    let s ← if fold to ≠ from_ then s.deleteUser [] to else .ok s
    let cs ← renameLoop from_ to user.chans s.channels
    .ok { s with users := AMap.set (AMap.erase s.users from_) (fold to) { user with nick := to }, channels := cs }

theorem renameUser_eq_tail (s : St) (from_ to : Bytes) :
    s.renameUser from_ to =
      renameTail (if fold from_ = fold s.nick then { s with nick := to } else s) (fold from_) to := by
  unfold St.renameUser renameTail St.lookupUser
  simp only [fold_idem]
  rfl

theorem renameTail_some {s : St} (h : Inv s) {from_ to : Bytes} {user : User}
    (hu : AMap.get? s.users from_ = some user)
    (ht : fold to = from_ ∨ AMap.get? s.users (fold to) = none) :
    ∃ cs', renameTail s from_ to =
        .ok { s with users := AMap.set (AMap.erase s.users from_) (fold to) { user with nick := to }, channels := cs' } ∧
      AMap.keys cs' = AMap.keys s.channels ∧
      (∀ k, AMap.get? cs' k =
        if k ∈ user.chans then (AMap.get? s.channels k).map (renameChan from_ to) else AMap.get? s.channels k) := by
  have hL := h.toInvL
  obtain ⟨cs', hrun, hkeys, hget⟩ := renameLoop_spec from_ to user.chans s.channels (hL.chans_nodup hu)
    (fun c hc => by
      obtain ⟨ch, hch, _⟩ := hL.userToChan from_ user hu c hc
      exact ⟨ch, hch⟩)
  refine ⟨cs', ?_, hkeys, hget⟩
  unfold renameTail
  rw [hu]
  dsimp only
  split
  · next hne =>
    rw [InvDelete.deleteUser_none (ht.resolve_left hne)]
    show (renameLoop from_ to user.chans s.channels >>= _) = _
    rw [hrun]; rfl
  · show (renameLoop from_ to user.chans s.channels >>= _) = _
    rw [hrun]; rfl

/-- A user already known under the new nick is removed first; the rest is the tail on what remains. -/
theorem renameTail_of_delete {s s1 : St} {from_ to : Bytes} {user : User}
    (hu : AMap.get? s.users from_ = some user) (hne : fold to ≠ from_) (hdel : s.deleteUser [] to = .ok s1)
    (hu1 : AMap.get? s1.users from_ = some user) (hfree : AMap.get? s1.users (fold to) = none) :
    renameTail s from_ to = renameTail s1 from_ to := by
  unfold renameTail
  rw [hu, hu1]
  dsimp only
  rw [if_pos hne, if_pos hne, hdel, InvDelete.deleteUser_none hfree]

theorem renameTail_inv (s : St) (from_ to : Bytes) (h : Inv s) :
    ∃ st', renameTail s from_ to = .ok st' ∧ Inv st' := by
  have key : ∀ {s : St} {user : User}, Inv s → AMap.get? s.users from_ = some user →
      (fold to = from_ ∨ AMap.get? s.users (fold to) = none) →
      ∃ st', renameTail s from_ to = .ok st' ∧ Inv st' := by
    intro s user h hu ht
    obtain ⟨cs', hrun, hkeys, hget⟩ := renameTail_some h hu ht
    exact ⟨_, hrun, inv_with_maps s (invL_rename h.toInvL hu ht hkeys hget)⟩
  cases hu : AMap.get? s.users from_ with
  | none => exact ⟨s, by unfold renameTail; rw [hu], h⟩
  | some user =>
    by_cases hne : fold to = from_
    · exact key h hu (Or.inl hne)
    · cases ht : AMap.get? s.users (fold to) with
      | none => exact key h hu (Or.inr ht)
      | some stale =>
        obtain ⟨cs', hdel, hnd', hget⟩ := InvDelete.deleteUser_nil_eq h to ht
        have hu1 : AMap.get? (AMap.erase s.users (fold to)) from_ = some user := by
          rw [get?_erase_ne _ (Ne.symm hne)]; exact hu
        rw [renameTail_of_delete hu hne hdel hu1 (get?_erase_self _ _)]
        exact key (inv_with_maps s (h.toInvL.eraseUser (fold to) hnd' hget)) hu1 (Or.inr (get?_erase_self _ _))

/-- NICK, including onto a nickname that is already tracked, a case-only change, and an empty or
    otherwise odd new nickname. -/
theorem renameUser_inv (st : St) (from_ to : Bytes) (h : Inv st) :
    ∃ st', st.renameUser from_ to = .ok st' ∧ Inv st' := by
  rw [renameUser_eq_tail]
  apply renameTail_inv
  split
  · exact inv_of_maps_eq st _ h rfl rfl
  · exact h

end Girc.Proofs.InvRename
