import Girc.Proofs.InvRename
import Girc.Proofs.SimBase
/-
  C04: NICK (the same user under a new key, including case-only changes and the client's own nick); `st`/`r` are
  the states AFTER the account-tag step. `rekey` acts on the reference relations as one map `rk` on user keys,
  undone by the map in the other direction (`rk_inv`) as long as the new key is the old one or unused; this
  carries memberships and privilege records across in `sim_renameTail` (`InvRename.renameTail` is everything in
  `renameUser` after the own-nick update).
-/
namespace Girc.Proofs.SimNick
open Girc Girc.Model Girc.Spec Girc.Proofs.InvBase Girc.Proofs.InvRename Girc.Proofs.SimAMap Girc.Proofs.SimJoin

/-- What `rekey` does to a user key. -/
def rk (old new_ n : Bytes) : Bytes := if n = old then new_ else n

theorem rekey_some {r : Ref} {old new_ nick : Bytes} {u : RUser} (h : AMap.get? r.users old = some u) :
    r.rekey old new_ nick =
      { r with users := AMap.set (AMap.erase r.users old) new_ { u with nick := nick },
               members := r.members.map fun m => (m.1, rk old new_ m.2),
               perms := r.perms.map fun p => ((p.1.1, rk old new_ p.1.2), p.2) } := by
  have e1 : (fun m : Bytes × Bytes => if m.2 = old then (m.1, new_) else m) = fun m => (m.1, rk old new_ m.2) :=
    funext fun m => by unfold rk; split <;> rfl
  have e2 : (fun p : (Bytes × Bytes) × Perms => if p.1.2 = old then ((p.1.1, new_), p.2) else p) =
      fun p => ((p.1.1, rk old new_ p.1.2), p.2) :=
    funext fun p => by unfold rk; split <;> rfl
  unfold Ref.rekey
  rw [h]
  dsimp only
  rw [e1, e2]

theorem rekey_none {r : Ref} {old new_ nick : Bytes} (h : AMap.get? r.users old = none) :
    r.rekey old new_ nick = r := by
  unfold Ref.rekey
  rw [h]

theorem rk_inv {old new_ n : Bytes} (h : n = old ∨ n ≠ new_) : rk new_ old (rk old new_ n) = n := by
  unfold rk
  by_cases e : n = old
  · rw [if_pos e, if_pos rfl, e]
  · rw [if_neg e, if_neg (h.resolve_left e)]

theorem mem_map_rk (M : List (Bytes × Bytes)) (old new_ k n : Bytes) :
    (k, n) ∈ M.map (fun m => (m.1, rk old new_ m.2)) ↔ (n = new_ ∧ (k, old) ∈ M) ∨ (n ≠ old ∧ (k, n) ∈ M) := by
  rw [List.mem_map]
  unfold rk
  constructor
  · rintro ⟨⟨c, u⟩, hm, he⟩
    cases he
    by_cases hu : u = old
    · exact Or.inl ⟨if_pos hu, hu ▸ hm⟩
    · rw [if_neg hu]
      exact Or.inr ⟨hu, hm⟩
  · rintro (⟨e, hm⟩ | ⟨hne, hm⟩)
    · exact ⟨(k, old), hm, by rw [if_pos rfl, e]⟩
    · exact ⟨(k, n), hm, by rw [if_neg hne]⟩

theorem nodup_map_rk {M : List (Bytes × Bytes)} (hnd : M.Nodup) {old new_ : Bytes}
    (hf : ∀ m ∈ M, m.2 = old ∨ m.2 ≠ new_) : (M.map fun m => (m.1, rk old new_ m.2)).Nodup := by
  unfold List.Nodup
  rw [List.pairwise_map]
  refine List.Pairwise.imp_of_mem (fun {a b} ha hb hne heq => hne ?_) hnd
  obtain ⟨h1, h2⟩ := Prod.mk.inj heq
  refine Prod.ext h1 ?_
  rw [← rk_inv (hf a ha), ← rk_inv (hf b hb), h2]

theorem find?_map_key (P : List ((Bytes × Bytes) × Perms)) (f : Bytes × Bytes → Bytes × Bytes)
    (q q' : Bytes × Bytes) (hq : ∀ p ∈ P, f p.1 = q' ↔ p.1 = q) :
    ((P.map fun p => (f p.1, p.2)).find? (·.1 == q')).map (·.2) = (P.find? (·.1 == q)).map (·.2) := by
  induction P with
  | nil => rfl
  | cons p P ih =>
    have hp : (f p.1 == q') = (p.1 == q) := by
      rw [Bool.eq_iff_iff, beq_iff_eq, beq_iff_eq]
      exact hq p List.mem_cons_self
    rw [List.map_cons, List.find?_cons, List.find?_cons, hp]
    cases p.1 == q with
    | true => rfl
    | false => exact ih fun x hx => hq x (List.mem_cons_of_mem _ hx)

theorem getPerms_rekey {r : Ref} {old new_ : Bytes} (hf : ∀ p ∈ r.perms, p.1.2 = old ∨ p.1.2 ≠ new_)
    (k : Bytes) {n : Bytes} (hn : n = new_ ∨ n ≠ old)
    (r' : Ref) (hr' : r'.perms = r.perms.map fun p => ((p.1.1, rk old new_ p.1.2), p.2)) :
    r'.getPerms k n = r.getPerms k (rk new_ old n) := by
  unfold Ref.getPerms
  rw [hr', find?_map_key r.perms (fun q => (q.1, rk old new_ q.2)) (k, rk new_ old n) (k, n)]
  intro p hp
  rw [Prod.mk.injEq, Prod.ext_iff]
  refine and_congr_right fun _ => ⟨fun e => ?_, fun e => ?_⟩
  · rw [← e]; exact (rk_inv (hf p hp)).symm
  · rw [e]; exact rk_inv hn

theorem chanView_renameChan (from_ to : Bytes) (ch : Channel) : chanView (renameChan from_ to ch) = chanView ch := by
  unfold renameChan
  split <;> rfl

theorem renameChan_modes (from_ to : Bytes) (ch : Channel) : (renameChan from_ to ch).modes = ch.modes := by
  unfold renameChan
  split <;> rfl

theorem userView_setNick (u : User) (n : Bytes) : userView { u with nick := n } = { userView u with nick := n } := rfl

theorem sim_renameTail {s : St} {r : Ref} (hi : Inv s) (h : SimW s r) {old to : Bytes}
    (ht : fold to = old ∨ AMap.get? s.users (fold to) = none) :
    ∃ st', renameTail s old to = .ok st' ∧ SimW st' (r.rekey old (fold to) to) := by
  cases hu : AMap.get? s.users old with
  | none =>
    refine ⟨s, by unfold renameTail; rw [hu], ?_⟩
    rw [rekey_none (view_none h.users hu)]
    exact h
  | some user =>
    obtain ⟨cs', hrun, hkeys, hget⟩ := renameTail_some hi hu ht
    refine ⟨_, hrun, ?_⟩
    have hL := hi.toInvL
    have hcs := renamed_get? hL hu hget
    rw [rekey_some (known_of_get? h.users hu)]
    -- the new key is the old one or unknown, so re-keying can be undone on every key that is mentioned
    have hfresh : ∀ n, AMap.contains r.users n = true → n = old ∨ n ≠ fold to := by
      intro n hn
      rcases ht with e | hnone
      · exact (Decidable.em (n = old)).imp_right fun hne e' => hne (e'.trans e)
      · refine Or.inr fun e' => ?_
        rw [e', contains_eq_of_view h.users, (contains_eq_false_iff _ _).mpr hnone] at hn
        cases hn
    have hP : ∀ p ∈ r.perms, p.1.2 = old ∨ p.1.2 ≠ fold to := fun p hp => hfresh _ (h.permsKnown p hp)
    have hknown : ∀ n, AMap.contains r.users n = true →
        AMap.contains (AMap.set (AMap.erase r.users old) (fold to) { userView user with nick := to })
          (rk old (fold to) n) = true := by
      intro n hn
      unfold rk
      split
      · exact contains_set_self _ _ _
      · next hne => exact contains_set_of_contains _ _ _ ((contains_erase _ _ _).mpr ⟨hne, hn⟩)
    exact SimW.of_sim { h with
      inv := inv_with_maps s (invL_rename hL hu ht hkeys hget)
      chans := fun k => by
        show (AMap.get? cs' k).map chanView = AMap.get? r.chans k
        rw [hcs, Option.map_map, show chanView ∘ renameChan old to = chanView from funext (chanView_renameChan old to)]
        exact h.chans k
      chanModesWF := fun k ch' hk' => by
        rw [show AMap.get? cs' k = _ from hcs k] at hk'
        obtain ⟨ch, hch, rfl⟩ := Option.map_eq_some_iff.mp hk'
        rw [renameChan_modes]
        exact h.chanModesWF k ch hch
      users := view_set (view_erase h.users old) (fold to) { user with nick := to }
      members := fun k ch' hk' n => by
        rw [show AMap.get? cs' k = _ from hcs k] at hk'
        obtain ⟨ch, hch, rfl⟩ := Option.map_eq_some_iff.mp hk'
        have hm := h.members k ch hch
        rw [mem_renameChan_users (hL.users_nodup hch), mem_map_rk, hm old, hm n]
      membersKnown := fun k n hkn => by
        obtain ⟨m, hm, e⟩ := List.mem_map.mp hkn
        cases e
        exact ⟨(h.membersKnown m.1 m.2 hm).1, hknown _ (h.membersKnown m.1 m.2 hm).2⟩
      membersNodup := nodup_map_rk h.membersNodup fun m hm => hfresh _ (h.membersKnown m.1 m.2 hm).2
      perms := fun k n u' hkn hn => by
        have hkn' := (mem_map_rk _ _ _ _ _).mp hkn
        rcases get?_set_some hn with ⟨e1, rfl⟩ | ⟨e1, hn'⟩
        · -- the renamed user
          rw [getPerms_rekey hP k (Or.inl e1) _ rfl, rk, if_pos e1]
          refine h.perms k old user ?_ hu
          rcases hkn' with ⟨_, hm⟩ | ⟨hne, hm⟩
          · exact hm
          · exact absurd e1 ((hfresh n (h.membersKnown k n hm).2).resolve_left hne)
        · obtain ⟨hne, hn''⟩ := get?_erase_some hn'
          rw [getPerms_rekey hP k (Or.inr hne) _ rfl, rk, if_neg e1]
          exact h.perms k n u' (hkn'.resolve_left fun a => e1 a.1).2 hn''
      permsKnown := fun p hp => by
        obtain ⟨q, hq, rfl⟩ := List.mem_map.mp hp
        exact hknown _ (h.permsKnown q hq)
      userKeysNodup := keys_set_nodup (keys_erase_nodup h.userKeysNodup old) _ _ }

theorem sim_renameUser {st : St} {r : Ref} (hi : Inv st) (h : SimW st r) {x to : Bytes}
    (ht : fold to = fold x ∨ AMap.get? st.users (fold to) = none) :
    ∃ st', st.renameUser (fold x) to = .ok st' ∧
      SimW st' ((if fold x = fold r.me then { r with me := to } else r).rekey (fold x) (fold to) to) := by
  rw [renameUser_eq_tail, fold_idem, h.nick]
  by_cases hme : fold x = fold r.me
  · rw [if_pos hme, if_pos hme]
    exact sim_renameTail (s := { st with nick := to }) (inv_of_maps_eq st _ hi rfl rfl)
      (h.scalars rfl h.ident h.host h.motd h.maxLine h.maxPrefix h.opts) ht
  · rw [if_neg hme, if_neg hme]
    exact sim_renameTail hi h ht

theorem sim_NICK {st : St} {r : Ref} (cfg : Cfg) (e : Event) (hi : Inv st) (h : SimW st r)
    (hc : r.conformant cfg e = true) (hcmd : e.command = cNICK) :
    ∃ st', handleNICK st e = .ok st' ∧ SimW st' (r.cmdStep cfg e) := by
  obtain ⟨t, s, c, p⟩ := e
  subst hcmd
  conv => enter [1, st', 2, 2]; whnf
  have hc := (Bool.and_eq_true_iff.mp hc).2
  conv at hc => lhs; whnf
  obtain _ | src := s
  · cases hc
  obtain _ | ⟨q, ps⟩ := p
  · cases (Bool.and_eq_true_iff.mp hc).2
  have hc := (Bool.and_eq_true_iff.mp hc).2
  refine sim_renameUser hi h ?_
  simp only [Bool.and_eq_true, Bool.or_eq_true, decide_eq_true_eq, Bool.not_eq_true'] at hc
  exact hc.2.imp_right fun hk => none_of_view h.users ((contains_eq_false_iff _ _).mp hk.1)

end Girc.Proofs.SimNick
