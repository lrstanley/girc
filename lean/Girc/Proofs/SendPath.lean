import Girc.Model.SendPath
import Girc.Proofs.Pure
/- Proofs about the outgoing path (C16): FIFO order, AllowFlood, keep-alive bypass, per-piece charging,
   and the link between the queue machine and the serial trace of `Proofs.Pure.leaky_bucket`. -/
namespace Girc.Proofs.SendPath
open Girc Girc.Model Girc.Proofs.Pure Girc.Proofs.PureAux

variable {α : Type}

theorem stepSend_fifo (flood : Bool) (s : SendSt α) (op : SendOp α) (rest : List (SendOp α)) :
    (stepSend flood s op).1.wire ++ (stepSend flood s op).1.queue ++ handedOver rest =
      s.wire ++ s.queue ++ handedOver (op :: rest) := by
  cases op with
  | send now e len =>
    simp only [stepSend, sendPiece, handedOver]
    split <;> simp
  | write e => simp [stepSend, writeDirect, handedOver]
  | flush now =>
    simp only [stepSend, flushOne, handedOver]
    split
    · simp
    · rename_i e rest h; simp [h]

/-- Nothing is lost, duplicated or reordered between the helpers and the socket: what has been written
    followed by what is still queued is exactly what was handed over, in call order. -/
theorem fifo (flood : Bool) (ops : List (SendOp α)) : ∀ s : SendSt α,
    (runSend flood s ops).1.wire ++ (runSend flood s ops).1.queue = s.wire ++ s.queue ++ handedOver ops := by
  induction ops with
  | nil => intro s; simp [runSend, handedOver]
  | cons op rest ih =>
    intro s
    simp only [runSend]
    rw [ih, stepSend_fifo]

theorem runSend_delays_length (flood : Bool) (ops : List (SendOp α)) : ∀ s : SendSt α,
    (runSend flood s ops).2.length = ops.length := by
  induction ops with
  | nil => intro s; simp [runSend]
  | cons op rest ih => intro s; simp [runSend, ih]

/-- `AllowFlood`: no delay is ever inserted and the limiter state never moves. -/
theorem allow_flood_no_delay (ops : List (SendOp α)) : ∀ s : SendSt α,
    (∀ d ∈ (runSend true s ops).2, d = 0) ∧ (runSend true s ops).1.writeDelay = s.writeDelay := by
  induction ops with
  | nil => intro s; simp [runSend]
  | cons op rest ih =>
    intro s
    have h1 : (stepSend true s op).2 = 0 ∧ (stepSend true s op).1.writeDelay = s.writeDelay := by
      cases op with
      | send now e len => simp [stepSend, sendPiece]
      | write e => simp [stepSend, writeDirect]
      | flush now => simp only [stepSend, flushOne]; split <;> simp
    have h2 := ih (stepSend true s op).1
    simp only [runSend, List.mem_cons, forall_eq_or_imp]
    exact ⟨⟨h1.1, h2.1⟩, h2.2.trans h1.2⟩

/-- Keep-alives (`write`) are never delayed and never charged, whatever the limiter state. -/
theorem keepalive_bypass (flood : Bool) (s : SendSt α) (e : α) :
    (stepSend flood s (.write e)).2 = 0 ∧
    (stepSend flood s (.write e)).1.writeDelay = s.writeDelay ∧
    (stepSend flood s (.write e)).1.lastWrite = s.lastWrite ∧
    (stepSend flood s (.write e)).1.queue = s.queue ++ [e] := by
  simp [stepSend, writeDirect]

/-- With flood protection on, every piece handed to `Send` is charged, and once the outstanding cost
    exceeds the allowance it is held for exactly its own cost (one second plus 10 ms per byte). -/
theorem piece_held (s : SendSt α) (now : Int) (e : α) (len : Nat) :
    let r := stepSend false s (.send now e len)
    (r.2 = 0 ∨ r.2 = cost len) ∧ (r.2 = cost len ↔ r.1.writeDelay > 8 * second) ∧ 0 ≤ r.1.writeDelay ∧
    r.1.queue = s.queue ++ [e] := by
  simpa [stepSend, sendPiece] using delay_exact s.writeDelay (sinceOf s now) len

/-- A serial sender (one goroutine calling `Send` in a loop; `sendLoop` writes each event before the next
    call observes `lastWrite`): call k happens `since` after the previous write and the event is written
    `extra ≥ 0` after the sleep. -/
def serialRun (s : SendSt Unit) : List Step → SendSt Unit
  | [] => s
  | st :: rest =>
    let now := s.lastWrite + st.since
    let r := sendPiece false s now () st.chars
    serialRun (flushOne r.1 (now + r.2 + st.extra)) rest

/-- One call of a serial sender whose previous event has been written. -/
theorem serial_step (s : SendSt Unit) (st : Step) (rest : List Step) (hq : s.queue = []) (hdue : s.lastDue ≤ s.lastWrite)
    (hst : 0 ≤ st.since ∧ 0 ≤ st.extra) :
    ∃ s', serialRun s (st :: rest) = serialRun s' rest ∧ s'.queue = [] ∧ s'.lastDue ≤ s'.lastWrite ∧
      s'.writeDelay = (rate s.writeDelay st.since st.chars).1 ∧
      s'.lastWrite = s.lastWrite + st.since + (rate s.writeDelay st.since st.chars).2 + st.extra := by
  have hsince : sinceOf s (s.lastWrite + st.since) = st.since := by
    simp only [sinceOf, SendSt.ref]
    omega
  refine ⟨_, rfl, ?_⟩
  simp [sendPiece, flushOne, hq, hsince]
  omega

/-- The queue machine run by a serial sender IS the trace of `leaky_bucket`: same final outstanding cost,
    and the time between the first and last write is the trace's elapsed time. -/
theorem serialRun_trace (tr : List Step) : ∀ s : SendSt Unit, s.queue = [] → s.lastDue ≤ s.lastWrite →
    (∀ st ∈ tr, 0 ≤ st.since ∧ 0 ≤ st.extra) →
    (serialRun s tr).writeDelay = (runTrace s.writeDelay tr).1 ∧
    (serialRun s tr).lastWrite = s.lastWrite + (runTrace s.writeDelay tr).2.1 ∧
    (serialRun s tr).queue = [] := by
  induction tr with
  | nil => intro s h _ _; simp [serialRun, runTrace, h]
  | cons st rest ih =>
    intro s hq hdue hpos
    obtain ⟨s', hrun, hq', hdue', hwd, hlw⟩ := serial_step s st rest hq hdue (hpos st List.mem_cons_self)
    have := ih s' hq' hdue' fun x hx => hpos x (List.mem_cons_of_mem _ hx)
    rw [hwd, hlw] at this
    rw [runTrace_cons, hrun]
    exact ⟨this.1, by rw [this.2.1]; simp only; omega, this.2.2⟩

/-- Hence the leaky-bucket bound holds for the queue machine: the total cost of what a serial sender got
    onto the wire is at most the 8-second allowance plus the wall-clock time it took. -/
theorem serial_leaky_bucket (s : SendSt Unit) (tr : List Step) (hq : s.queue = []) (hdue : s.lastDue ≤ s.lastWrite)
    (hwd : 0 ≤ s.writeDelay) (h : ∀ st ∈ tr, 0 ≤ st.since ∧ 0 ≤ st.extra) :
    (runTrace s.writeDelay tr).2.2 ≤ 8 * second + ((serialRun s tr).lastWrite - s.lastWrite) := by
  have h1 := leaky_bucket s.writeDelay tr hwd h
  have h2 := (serialRun_trace tr s hq hdue h).2.1
  omega

/-! ### the bound without any assumption on `sendLoop` keeping up -/

def capped (wd : Int) : Int := if wd < 8 * second then wd else 8 * second

theorem capped_eq_min (wd : Int) : capped wd = min wd (8 * second) := by
  simp only [capped]
  omega

/-- One step of a disciplined history: its cost is covered by the growth of the capped outstanding cost and the
    advance of the reference point. -/
theorem step_bound (s : SendSt α) (op : SendOp α) (rest : List (SendOp α)) (hwd : 0 ≤ s.writeDelay)
    (hd : Disciplined s (op :: rest)) :
    Disciplined (stepSend false s op).1 rest ∧ 0 ≤ (stepSend false s op).1.writeDelay ∧
    sentCost (op :: rest) + capped s.writeDelay ≤
      sentCost rest + capped (stepSend false s op).1.writeDelay + ((stepSend false s op).1.ref - s.ref) := by
  cases op with
  | send now e len =>
    have h1 : s.ref ≤ now := hd.1
    have hsince : sinceOf s now = now - s.ref := by simp only [sinceOf]; omega
    have hr := rate_step s.writeDelay (sinceOf s now) len (by omega)
    have href : now + (rate s.writeDelay (sinceOf s now) len).2 ≤ (sendPiece false s now e len).1.ref := by
      simp only [sendPiece, SendSt.ref, Bool.false_eq_true, if_false]
      omega
    refine ⟨hd.2, hr.2.1, ?_⟩
    show cost len + sentCost rest + capped s.writeDelay ≤
      sentCost rest + capped (rate s.writeDelay (sinceOf s now) len).1 + ((sendPiece false s now e len).1.ref - s.ref)
    simp only [capped_eq_min]
    omega
  | write e => exact ⟨hd, hwd, Int.le_of_eq (by simp [stepSend, writeDirect, sentCost, SendSt.ref])⟩
  | flush now =>
    have h1 : s.lastWrite ≤ now := hd.1
    refine ⟨hd.2, ?_⟩
    cases hq : s.queue with
    | nil => simp only [stepSend, flushOne, hq, sentCost]; exact ⟨hwd, by omega⟩
    | cons e q => simp only [stepSend, flushOne, hq, sentCost, SendSt.ref]; exact ⟨hwd, by omega⟩

/-- For ANY history — `sendLoop` arbitrarily late, keep-alives in between — that respects the clock discipline:
    the total cost of everything passed through `Send` is at most the 8-second allowance plus the wall-clock
    time between the reference point at the start and the moment the last rated event is due. -/
theorem limiter_bound {α : Type} (ops : List (SendOp α)) : ∀ s : SendSt α, 0 ≤ s.writeDelay → Disciplined s ops →
    sentCost ops + capped s.writeDelay ≤
      capped (runSend false s ops).1.writeDelay + ((runSend false s ops).1.ref - s.ref) ∧
    0 ≤ (runSend false s ops).1.writeDelay := by
  induction ops with
  | nil => intro s h _; simp [runSend, sentCost, h]
  | cons op rest ih =>
    intro s hwd hd
    obtain ⟨hd', hwd', hstep⟩ := step_bound s op rest hwd hd
    have := ih _ hwd' hd'
    simp only [runSend]
    exact ⟨by omega, this.2⟩

end Girc.Proofs.SendPath
