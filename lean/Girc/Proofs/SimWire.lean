import Girc.Proofs.SimMain
import Girc.Proofs.ProtocolBAux
/-
  C04 at the wire level: the received LINES are parsed (the parser of C02), handled one at a time,
  locally injected events are processed after the event that injected them (Model/Run.lean), and as long
  as nothing has ended the connection the tracked state is what the event-level refinement says.
  The handlers only ever inject ERROR events (`injects_are_errors`) and `ended` only moves away from
  `.running`, so a line that leaves the run running was one `handleEvent` (`stepAll_single`).
-/
namespace Girc.Proofs.SimWire
open Girc Girc.Model Girc.Spec
open Girc.Proofs.InvHandlers Girc.Proofs.ProtocolBAux

/-- Every injected event of the output list is an ERROR. Stated as a check, so that for a list that is
    written out it holds by evaluation. -/
def InjErr (outs : List Out) : Prop :=
  outs.all (fun | .inject x => x.command == cERROR | _ => true) = true

theorem InjErr.mem {outs : List Out} (h : InjErr outs) (x : Event) (hx : Out.inject x ∈ outs) :
    x.command = cERROR :=
  eq_of_beq (List.all_eq_true.mp h _ hx)

theorem injErr_append {a b : List Out} (ha : InjErr a) (hb : InjErr b) : InjErr (a ++ b) := by
  unfold InjErr at *
  rw [List.all_append, ha, hb]
  rfl

theorem injErr_ite {c : Prop} [Decidable c] {a b : List Out} (ha : InjErr a) (hb : InjErr b) :
    InjErr (if c then a else b) :=
  InvBase.ite_ind (fun _ => ha) (fun _ => hb)

theorem injErr_ite_snd {α : Type} {c : Prop} [Decidable c] {a b : α × List Out} (ha : InjErr a.2) (hb : InjErr b.2) :
    InjErr (if c then a else b).2 :=
  InvBase.ite_ind (P := fun x : α × List Out => InjErr x.2) (fun _ => ha) (fun _ => hb)

/-- "whatever it returns, only ERROR events are injected" for a handler that may fault. -/
def InjM {α : Type} (m : M (α × List Out)) : Prop := ∀ a outs, m = .ok (a, outs) → InjErr outs

theorem injM_ok {α : Type} {a : α} {outs : List Out} (h : InjErr outs) : InjM (.ok (a, outs)) := by
  intro _ _ e
  cases e
  exact h

theorem injM_ite {α : Type} {c : Prop} [Decidable c] {a b : M (α × List Out)} (ha : InjM a) (hb : InjM b) :
    InjM (if c then a else b) :=
  InvBase.ite_ind (fun _ => ha) (fun _ => hb)

theorem injM_bind {α β : Type} {m : M β} {f : β → M (α × List Out)} (hf : ∀ b, InjM (f b)) : InjM (m >>= f) := by
  intro a outs h
  obtain ⟨b, _, h⟩ := InvBase.bind_ok_inv h
  exact hf b a outs h

theorem injM_bind_outs {α β : Type} {m : M (β × List Out)} {f : β × List Out → M (α × List Out)} (hm : InjM m)
    (hf : ∀ b o, InjErr o → InjM (f (b, o))) : InjM (m >>= f) := by
  intro a outs h
  obtain ⟨⟨b, o⟩, hb, h⟩ := InvBase.bind_ok_inv h
  exact hf b o (hm b o hb) a outs h

theorem ctcpCall_injErr (cfg : Cfg) (ev : CTCPEvent) (time idle : Bytes) : InjErr (ctcpCall cfg ev time idle) := by
  unfold ctcpCall ctcpReply
  extract_lets known
  refine injErr_ite (injErr_ite rfl ?_) (injErr_ite rfl ?_)
  · split
    · exact injErr_ite rfl rfl
    · rfl
  · split
    · rfl
    · exact injErr_ite rfl (injErr_ite rfl (injErr_ite rfl (injErr_ite rfl (injErr_ite rfl rfl))))

theorem nickCollision_injErr (cfg : Cfg) (st : St) (e : Event) : InjErr (nickCollision cfg st e) := by
  unfold nickCollision
  extract_lets rejected nickEv
  split
  · rfl
  · exact injErr_ite rfl rfl
  · rfl
  · exact injErr_ite rfl rfl

theorem handleSASL_injErr (cfg : Cfg) (cs : CState) (e : Event) : InjErr (handleSASL cfg cs e).2 := by
  unfold handleSASL
  refine injErr_ite_snd rfl ?_
  cases cfg.sasl with
  | none => rfl
  | some m =>
    refine injErr_ite_snd rfl (List.all_eq_true.mpr fun o ho => ?_)
    obtain ⟨c, _, rfl⟩ := List.mem_map.mp ho
    rfl

theorem handleSASLError_injErr (cfg : Cfg) (e : Event) : InjErr (handleSASLError cfg e) :=
  injErr_ite rfl rfl

theorem ackRes_injErr (cfg : Cfg) (st : St) (last : Bytes) : InjErr (ackRes cfg st last).2 := by
  have htail : ∀ s, InjErr (ackTail cfg s).2 := fun s => by unfold ackTail; split <;> rfl
  unfold ackRes
  extract_lets st1
  cases AMap.get? st1.enabledCap sSts with
  | none => exact htail st1
  | some v =>
    refine injErr_ite_snd (htail st1) ?_
    cases (stsOnAck cfg st1.sts v).2 with
    | abort => rfl
    | upgrade => rfl
    | continue_ => exact htail _

theorem handleCAP_injErr (cfg : Cfg) (st : St) (e : Event) : InjErr (handleCAP cfg st e).2 := by
  rw [handleCAP_eq]
  exact injErr_ite_snd rfl (injErr_ite_snd rfl (injErr_ite_snd (injErr_ite (injErr_ite rfl rfl) rfl)
    (injErr_ite_snd (ackRes_injErr cfg st e.last) rfl)))

theorem handleJOIN_injErr (cfg : Cfg) (st : St) (e : Event) : InjM (handleJOIN cfg st e) := by
  unfold handleJOIN
  split
  · refine injM_bind fun channel => injM_bind fun user => ?_
    exact injM_ite (injM_ok rfl) (injM_ok rfl)
  · exact injM_ok rfl

theorem handleCommand_injErr (cfg : Cfg) (cs : CState) (e : Event) : InjM (handleCommand cfg cs e) := by
  unfold handleCommand
  dsimp only
  refine injM_ite (injM_ok rfl) ?_
  refine injM_ite (injM_ok rfl) ?_
  refine injM_ite (injM_ok (nickCollision_injErr cfg cs.st e)) ?_
  refine injM_ite (injM_ok rfl) ?_
  refine injM_ite (injM_bind_outs (handleJOIN_injErr cfg cs.st e) fun _ _ => injM_ok) ?_
  -- PART, KICK, QUIT, NICK, 353, MODE, WHO, TOPIC, 004 return a state only
  iterate 9 refine injM_ite (injM_bind fun _ => injM_ok rfl) ?_
  iterate 2 refine injM_ite (injM_ok rfl) ?_
  refine injM_ite (injM_ok (handleCAP_injErr cfg cs.st e)) ?_
  iterate 3 refine injM_ite (injM_ok rfl) ?_
  refine injM_ite (injM_ok (handleSASL_injErr cfg cs e)) ?_
  exact injM_ite (injM_ok (handleSASLError_injErr cfg e)) (injM_ok rfl)

theorem handleEvent_injErr (cfg : Cfg) (cs : CState) (e : Event) (time idle : Bytes) :
    InjM (handleEvent cfg cs e time idle) := by
  unfold handleEvent
  extract_lets echo cs1 ctcp jp
  have hctcp : InjErr ctcp := by
    unfold ctcp
    split
    · exact ctcpCall_injErr cfg _ time idle
    · rfl
  have hjp : ∀ c o, InjErr o → InjM (jp (c, o)) := fun _ _ ho => injM_ok (injErr_append ho hctcp)
  exact injM_ite (hjp _ _ rfl) (injM_bind_outs (handleCommand_injErr cfg cs1 e) hjp)

/-- Everything the library injects into its own receive queue is a local ERROR. -/
theorem injects_are_errors (cfg : Cfg) (cs : CState) (e : Event) (time idle : Bytes) (cs' : CState) (outs : List Out)
    (h : handleEvent cfg cs e time idle = .ok (cs', outs)) :
    ∀ x, Out.inject x ∈ outs → x.command = cERROR :=
  (handleEvent_injErr cfg cs e time idle cs' outs h).mem

theorem applyOuts_inj (cfg : Cfg) (isURL : Bytes → Bool) : ∀ (outs : List Out) (r : Run),
    ∀ x ∈ (applyOuts cfg isURL r outs).2, Out.inject x ∈ outs
  | [], _ => fun _ h => nomatch h
  | .write _ :: rest, _ => fun x h => List.mem_cons_of_mem _ (applyOuts_inj cfg isURL rest _ x h)
  | .send _ :: rest, _ => fun x h => List.mem_cons_of_mem _ (applyOuts_inj cfg isURL rest _ x h)
  | .close :: rest, r => fun x h => List.mem_cons_of_mem _ (applyOuts_inj cfg isURL rest r x h)
  | .inject e :: rest, r => fun x h => by
    rcases List.mem_cons.mp h with h | h
    · rw [h]; exact List.mem_cons_self
    · exact List.mem_cons_of_mem _ (applyOuts_inj cfg isURL rest r x h)

theorem stepEvent_running (cfg : Cfg) (r : Run) (e : Event) (time idle : Bytes) (isURL : Bytes → Bool)
    (r' : Run) (inj : List Event) (h : stepEvent cfg r e time idle isURL = .ok (r', inj))
    (hr : r'.ended = .running) :
    e.command ≠ cERROR ∧ (∃ outs, handleEvent cfg r.cs e time idle = .ok (r'.cs, outs)) ∧
      ∀ x ∈ inj, x.command = cERROR := by
  unfold stepEvent at h
  obtain ⟨⟨cs', outs⟩, hc, h⟩ := InvBase.bind_ok_inv h
  obtain ⟨h1, rfl⟩ := Prod.mk.inj (Except.ok.inj h)
  have ha : (applyOuts cfg isURL { r with cs := cs' } outs).1.cs = cs' := applyOuts_cs cfg isURL outs _
  have hinj := fun x hx => (handleEvent_injErr cfg r.cs e time idle cs' outs hc).mem x
    (applyOuts_inj cfg isURL outs { r with cs := cs' } x hx)
  split at h1
  · subst h1
    cases hr
  · next hcond =>
    subst h1
    refine ⟨fun hce => hcond ?_, ⟨outs, ha.symm ▸ hc⟩, hinj⟩
    simp [hce, hr]

/-- A step function that returns an ended run unchanged only yields a running run from a running one. -/
theorem running_of_fixed {r r' : Run} {m : M Run} (h : m = .ok r') (hfix : r.ended ≠ .running → m = .ok r)
    (hr : r'.ended = .running) : r.ended = .running := by
  by_cases hne : r.ended = .running
  · exact hne
  · rw [hfix hne] at h
    cases h
    exact absurd hr hne

theorem stepAll_ended (cfg : Cfg) (isURL : Bytes → Bool) : ∀ (fuel : Nat) (r : Run) (queue : List Event),
    r.ended ≠ .running → stepAll cfg isURL fuel r queue = .ok r
  | 0, _, [], _ => rfl
  | 0, _, _ :: _, _ => rfl
  | _ + 1, _, [], _ => rfl
  | _ + 1, _, _ :: _, h => if_pos h

theorem stepAll_cons (cfg : Cfg) (isURL : Bytes → Bool) (fuel : Nat) (r r' : Run) (e : Event) (queue : List Event)
    (h : stepAll cfg isURL (fuel + 1) r (e :: queue) = .ok r') (hr : r'.ended = .running) :
    e.command ≠ cERROR ∧ ∃ r1 inj, (∃ outs, handleEvent cfg r.cs e [] [] = .ok (r1.cs, outs)) ∧
      (∀ x ∈ inj, x.command = cERROR) ∧ stepAll cfg isURL fuel r1 (queue ++ inj) = .ok r' := by
  have hrun := running_of_fixed h (stepAll_ended cfg isURL _ r _) hr
  unfold stepAll at h
  rw [if_neg fun hne => hne hrun] at h
  obtain ⟨⟨r1, inj⟩, hs, h⟩ := InvBase.bind_ok_inv h
  obtain ⟨hne, hout, hinj⟩ := stepEvent_running cfg r e [] [] isURL r1 inj hs
    (running_of_fixed h (stepAll_ended cfg isURL _ r1 _) hr)
  exact ⟨hne, r1, inj, hout, hinj, h⟩

theorem stepAll_single (cfg : Cfg) (isURL : Bytes → Bool) (fuel : Nat) (r r' : Run) (e : Event)
    (h : stepAll cfg isURL (fuel + 2) r [e] = .ok r') (hr : r'.ended = .running) :
    ∃ outs, handleEvent cfg r.cs e [] [] = .ok (r'.cs, outs) := by
  obtain ⟨_, r1, inj, hout, hinj, h⟩ := stepAll_cons cfg isURL _ r r' e [] h hr
  cases inj with
  | nil =>
    cases h
    exact hout
  -- an injected event is an ERROR, and with fuel left an ERROR at the head of the queue ends the run
  | cons x q => exact absurd (hinj x List.mem_cons_self) (stepAll_cons cfg isURL fuel r1 r' x q h hr).1

theorem stepLine_ended (cfg : Cfg) (r : Run) (line : Bytes) (he : r.ended ≠ .running) :
    stepLine cfg r line = .ok r :=
  if_pos he

theorem runLines_ended (cfg : Cfg) (lines : List Bytes) (r : Run) (he : r.ended ≠ .running) :
    runLines cfg r lines = .ok r := by
  unfold runLines
  induction lines with
  | nil => rfl
  | cons line rest ih => rw [List.foldlM_cons, stepLine_ended cfg r line he, InvBase.ok_bind, ih]

theorem stepLine_sim (cfg : Cfg) (hT : cfg.disableTracking = false) (r0 r1 : Run) (ref : Ref) (line : Bytes) (e : Event)
    (hpe : parseEvent line = some e) (hs : Sim r0.cs.st ref) (hc : ref.conformant cfg e = true)
    (h : stepLine cfg r0 line = .ok r1) (hr : r1.ended = .running) : Sim r1.cs.st (ref.step cfg e) := by
  have hr0 := running_of_fixed h (stepLine_ended cfg r0 line) hr
  unfold stepLine at h
  rw [if_neg fun hne => hne hr0, hpe] at h
  obtain ⟨outs, ho⟩ := stepAll_single cfg (fun _ => true) 6 r0 r1 e h hr
  obtain ⟨cs', outs', ho', hsim⟩ := SimMain.sim_handleEvent cfg hT e [] [] hs hc
  rw [ho] at ho'
  cases ho'
  exact hsim

theorem runLines_sim (cfg : Cfg) (hT : cfg.disableTracking = false) (lines : List Bytes) :
    ∀ (es : List Event) (r0 : Run) (ref : Ref), lines.map parseEvent = es.map some → Sim r0.cs.st ref →
      conformantHistory cfg ref es = true → ∀ r, runLines cfg r0 lines = .ok r → r.ended = .running →
      Sim r.cs.st (es.foldl (Ref.step cfg) ref) := by
  induction lines with
  | nil =>
    intro es r0 ref hp hs _ r hr _
    cases es with
    | nil =>
      cases hr
      exact hs
    | cons e es' => cases hp
  | cons line rest ih =>
    intro es r0 ref hp hs hc r hr hrun
    cases es with
    | nil => cases hp
    | cons e es' =>
      obtain ⟨hpe, hp'⟩ := List.cons.inj hp
      obtain ⟨hc1, hc2⟩ := Bool.and_eq_true_iff.mp hc
      unfold runLines at hr
      rw [List.foldlM_cons] at hr
      obtain ⟨r1, h1, hr2⟩ := InvBase.bind_ok_inv hr
      have hr1 := running_of_fixed hr2 (runLines_ended cfg rest r1) hrun
      exact ih es' r1 (ref.step cfg e) hp' (stepLine_sim cfg hT r0 r1 ref line e hpe hs hc1 h1 hr1) hc2 r hr2 hrun

end Girc.Proofs.SimWire
