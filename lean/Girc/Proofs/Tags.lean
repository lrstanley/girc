import Girc.Proofs.AMapLemmas
import Girc.Proofs.InvSort
import Girc.Proofs.ParseTags
import Girc.Proofs.Utf8
/-
  The tag API (`Tags.Set`/`Get`/`Bytes`, `ParseTags`): escaping is invertible, what `Tags.Set` builds is
  well-formed, a well-formed map is serialised without truncation, and its serialised section is a rendered
  tag list (`tagsJoin_eq`), so that parsing it back is an instance of `ParseTags.parseTags_render`.
-/
namespace Girc.Proofs.TagsAux
open Girc Girc.Model

theorem loop_nil (t : Tags) (cur : Nat) : tagsBytesLoop t [] cur = [] := rfl

end Girc.Proofs.TagsAux

namespace Girc.Proofs.Tags
open Girc Girc.Model Girc.Spec
open Girc.Proofs.InvBase Girc.Proofs.ParseLemmas Girc.Proofs.ParseTags Girc.Proofs.BytesLemmas

theorem tagDecode_cons_ne (b : UInt8) (s : Bytes) (hb : b ≠ 0x5C) :
    tagDecode (b :: s) = b :: tagDecode s := by
  cases s with
  | nil => simp [tagDecode]
  | cons c rest => simp [tagDecode, hb]

theorem tagDecode_esc (c d : UInt8) (s : Bytes) (h : tagUnesc c = some d) :
    tagDecode (0x5C :: c :: s) = d :: tagDecode s := by
  simp [tagDecode, h]

theorem tagDecode_enc1 (b : Byte) (s : Bytes) : tagDecode (tagEnc1 b ++ s) = b :: tagDecode s := by
  by_cases h1 : b = 0x3B
  · subst h1; exact tagDecode_esc 0x3A 0x3B s (by decide)
  by_cases h2 : b = 0x20
  · subst h2; exact tagDecode_esc 0x73 0x20 s (by decide)
  by_cases h3 : b = 0x5C
  · subst h3; exact tagDecode_esc 0x5C 0x5C s (by decide)
  by_cases h4 : b = 0x0D
  · subst h4; exact tagDecode_esc 0x72 0x0D s (by decide)
  by_cases h5 : b = 0x0A
  · subst h5; exact tagDecode_esc 0x6E 0x0A s (by decide)
  · rw [tagEnc1, if_neg h1, if_neg h2, if_neg h3, if_neg h4, if_neg h5]
    exact tagDecode_cons_ne b s h3

theorem unescape_ne (b : UInt8) (r : Bytes) (hb : b ≠ 0x5C) : unescape (b :: r) = b :: unescape r := by
  rw [unescape.eq_6] <;> intro _ h <;> exact absurd h hb

theorem escapesDefined_ne (b : UInt8) (r : Bytes) (hb : b ≠ 0x5C) :
    escapesDefined (b :: r) = escapesDefined r := by
  rw [escapesDefined.eq_3]
  · intro _ _ h; exact absurd h hb
  · intro h; exact absurd h hb

/-- `tagUnesc` is the table of five escapes that `unescape` and `escapesDefined` spell out. -/
theorem tagUnesc_cases (c : UInt8) (r : Bytes) :
    (∃ d, tagUnesc c = some d ∧ unescape (0x5C :: c :: r) = d :: unescape r) ∨
    (tagUnesc c = none ∧ escapesDefined (0x5C :: c :: r) = false) := by
  by_cases h1 : c = 0x3A
  · subst h1; exact Or.inl ⟨0x3B, by decide, unescape.eq_1 r⟩
  by_cases h2 : c = 0x73
  · subst h2; exact Or.inl ⟨0x20, by decide, unescape.eq_2 r⟩
  by_cases h3 : c = 0x5C
  · subst h3; exact Or.inl ⟨0x5C, by decide, unescape.eq_3 r⟩
  by_cases h4 : c = 0x72
  · subst h4; exact Or.inl ⟨0x0D, by decide, unescape.eq_4 r⟩
  by_cases h5 : c = 0x6E
  · subst h5; exact Or.inl ⟨0x0A, by decide, unescape.eq_5 r⟩
  · refine Or.inr ⟨by simp only [tagUnesc, h1, h2, h3, h4, h5, if_false], ?_⟩
    rw [escapesDefined.eq_1]
    simp only [h1, h2, h3, h4, h5, decide_false, Bool.or_self, Bool.false_and]

theorem tagsSet_some (t t' : Tags) (k v : Bytes) (h : tagsSet t k v = some t') :
    validTag k = true ∧ ((tagEncode v).length = 0 ∨ validTagValue (tagEncode v) = true) ∧
    tagsLen (some t) + k.length + (tagEncode v).length + 2 ≤ maxTagLength ∧
    t' = AMap.set t k (tagEncode v) := by
  unfold tagsSet at h
  by_cases h1 : validTag k = true
  · by_cases h2 : ((tagEncode v).length > 0 && !validTagValue (tagEncode v)) = true
    · simp [h1, h2] at h
    · by_cases h3 : tagsLen (some t) + k.length + (tagEncode v).length + 2 > maxTagLength
      · simp [h1, h2, h3] at h
      · simp only [h1, h2, h3] at h
        simp at h
        refine ⟨h1, ?_, by omega, h.symm⟩
        simp at h2
        by_cases h4 : (tagEncode v).length = 0
        · left; exact h4
        · right; exact h2 (by omega)
  · simp [h1] at h

theorem meaningTags_get_aux (ts : List (Bytes × Option Bytes)) (m : Tags) (k : Bytes) :
    AMap.get? (ts.foldl (fun m t => AMap.set m t.1 (t.2.getD [])) m) k =
      ((ts.reverse.find? (fun t => t.1 == k)).map (fun t => t.2.getD [])).or (AMap.get? m k) := by
  induction ts generalizing m with
  | nil => simp
  | cons t ts ih =>
    rw [List.foldl_cons, ih, get?_set, List.reverse_cons, List.find?_append]
    by_cases hk : t.1 = k
    · subst hk
      cases List.find? (fun t' => t'.1 == t.1) ts.reverse <;> simp
    · have : k ≠ t.1 := Ne.symm hk
      cases List.find? (fun t' => t'.1 == k) ts.reverse <;> simp [hk, this]

theorem meaningTags_get (ts : List (Bytes × Option Bytes)) (k : Bytes) :
    AMap.get? (meaningTags ts) k = (ts.reverse.find? (fun t => t.1 == k)).map (fun t => t.2.getD []) := by
  unfold meaningTags
  rw [meaningTags_get_aux]
  simp [AMap.get?]

theorem get?_foldl_set (f : Bytes → Bytes) (ks : List Bytes) (m : Tags) (k' : Bytes) :
    AMap.get? (ks.foldl (fun m k => AMap.set m k (f k)) m) k' =
      if k' ∈ ks then some (f k') else AMap.get? m k' := by
  induction ks generalizing m with
  | nil => simp
  | cons k ks ih =>
    rw [List.foldl_cons, ih, get?_set]
    by_cases h1 : k' ∈ ks
    · simp [h1]
    · by_cases h2 : k' = k
      · subst h2; simp
      · simp [h1, h2]

theorem tagValByte_facts : ∀ b : UInt8, tagValByte b = true →
    b < 0x80 ∧ (b != NUL && b != CR && b != LF && b != SP && b != 0x3B) = true := by
  decide +kernel

theorem validTagValue_wireSafe (v : Bytes) (h : validTagValue v = true) : wireSafeValue v = true := by
  have hb := List.all_eq_true.mp h
  refine Bool.and_eq_true_iff.mpr ⟨Utf8.validUTF8_ascii v ?_, ?_⟩
  · exact List.all_eq_true.mpr fun b hm => decide_eq_true (tagValByte_facts b (hb b hm)).1
  · exact List.all_eq_true.mpr fun b hm => (tagValByte_facts b (hb b hm)).2

theorem wireSafe_nil : wireSafeValue [] = true := rfl

theorem wireSafe_no (v : Bytes) (h : wireSafeValue v = true) :
    (0x3B : UInt8) ∉ v ∧ SP ∉ v :=
  have hall := (Bool.and_eq_true_iff.mp h).2
  ⟨not_mem_of_all hall (by decide), not_mem_of_all hall (by decide)⟩

theorem nodupB_iff (l : List Bytes) : nodupB l = true ↔ l.Nodup := by
  induction l with
  | nil => simp [nodupB]
  | cons x xs ih => simp [nodupB, ih]

/-- A tag map as the tag API builds it, the length bound aside. -/
structure TagsOK (t : Tags) : Prop where
  nodup : (AMap.keys t).Nodup
  mem : ∀ p ∈ t, validTag p.1 = true ∧ wireSafeValue p.2 = true

theorem wfTags_iff (t : Tags) :
    wfTags t = true ↔ TagsOK t ∧ (t ≠ [] → (tagsBytesFull t).length ≤ maxTagLength) := by
  unfold wfTags
  rw [Bool.and_eq_true, Bool.and_eq_true, nodupB_iff, List.all_eq_true, Bool.or_eq_true,
    List.isEmpty_iff, decide_eq_true_eq]
  constructor
  · exact fun h => ⟨⟨h.1.1, fun p hp => Bool.and_eq_true_iff.mp (h.1.2 p hp)⟩, fun hne => h.2.resolve_left hne⟩
  · exact fun h => ⟨⟨h.1.nodup, fun p hp => Bool.and_eq_true_iff.mpr (h.1.mem p hp)⟩,
      (Decidable.em (t = [])).imp_right h.2⟩

theorem TagsOK.nil : TagsOK [] := ⟨List.nodup_nil, fun _ h => nomatch h⟩

theorem TagsOK.key {t : Tags} (h : TagsOK t) {k : Bytes} (hk : k ∈ AMap.keys t) : validTag k = true := by
  obtain ⟨p, hp, rfl⟩ := List.mem_map.mp hk
  exact (h.mem p hp).1

theorem TagsOK.val {t : Tags} (h : TagsOK t) (k : Bytes) :
    wireSafeValue ((AMap.get? t k).getD []) = true := by
  unfold AMap.get?
  cases hl : List.lookup k t with
  | none => exact wireSafe_nil
  | some v => exact (h.mem _ (get?_some_mem hl)).2

theorem TagsOK.set {t : Tags} (h : TagsOK t) {k v : Bytes} (hk : validTag k = true)
    (hv : wireSafeValue v = true) : TagsOK (AMap.set t k v) := by
  refine ⟨keys_set_nodup h.nodup k v, fun p hp => (mem_set_cases (k' := p.1) (v' := p.2) hp).elim (h.mem p) fun e => ?_⟩
  rw [e.1, e.2]
  exact ⟨hk, hv⟩

theorem TagsOK.meaningTags {ts : List (Bytes × Option Bytes)}
    (h : ∀ x ∈ ts, validTag x.1 = true ∧ wireSafeValue (x.2.getD []) = true) : TagsOK (meaningTags ts) := by
  unfold Spec.meaningTags
  generalize hacc : ([] : Tags) = acc
  have hok : TagsOK acc := hacc ▸ TagsOK.nil
  clear hacc
  induction ts generalizing acc with
  | nil => exact hok
  | cons x ts ih =>
    exact ih (fun y hy => h y (List.mem_cons_of_mem _ hy)) _
      (hok.set (h x List.mem_cons_self).1 (h x List.mem_cons_self).2)

/-- The tag section without the leading '@'. -/
def item (t : Tags) (k : Bytes) : Bytes := tagItem k ((AMap.get? t k).getD [])

def tagsJoin (t : Tags) : Bytes := joinWith [0x3B] ((sortBytes (AMap.keys t)).map (item t))

theorem tagsBytesFull_eq (t : Tags) : tagsBytesFull t = AT :: tagsJoin t := rfl

theorem sorted_ne_nil (t : Tags) (hne : t ≠ []) : sortBytes (AMap.keys t) ≠ [] := fun e =>
  hne (List.map_eq_nil_iff.mp ((sortBytes_eq_nil_iff _).mp e))

theorem tagItem_length (k v : Bytes) :
    (tagItem k v).length = k.length + (if v.length > 0 then 1 + v.length else 0) := by
  unfold tagItem
  split <;> simp <;> omega

/-- One round of the loop of `Tags.Bytes`, in terms of the item `it` it writes. -/
theorem tagsBytesLoop_cons (t : Tags) (k : Bytes) (ks : List Bytes) (cur : Nat) (it : Bytes)
    (hit : it = item t k ++ if ks.isEmpty then [] else [0x3B]) :
    tagsBytesLoop t (k :: ks) cur =
      if cur + it.length > maxTagLength then [] else it ++ tagsBytesLoop t ks (cur + it.length) := by
  have e : k.length + (if ((AMap.get? t k).getD []).length > 0 then 1 + ((AMap.get? t k).getD []).length else 0) +
      (if ks.isEmpty then 0 else 1) = it.length := by
    rw [hit, List.length_append, item, tagItem_length]
    cases ks.isEmpty <;> rfl
  rw [tagsBytesLoop]
  simp only [e]
  rw [hit]
  rfl

theorem loop_full (t : Tags) (ks : List Bytes) (cur : Nat)
    (h : cur + (joinWith [0x3B] (ks.map (item t))).length ≤ maxTagLength) :
    tagsBytesLoop t ks cur = joinWith [0x3B] (ks.map (item t)) := by
  induction ks generalizing cur with
  | nil => rfl
  | cons k ks ih =>
    rw [tagsBytesLoop_cons t k ks cur _ rfl]
    cases ks with
    | nil =>
      simp only [List.map_cons, List.map_nil, joinWith, List.isEmpty_nil, if_true, List.append_nil] at h ⊢
      rw [if_neg (by omega), TagsAux.loop_nil, List.append_nil]
    | cons k' ks =>
      simp only [List.map_cons, joinWith, List.length_append, List.length_cons, List.length_nil,
        List.isEmpty_cons, Bool.false_eq_true, if_false] at h ⊢
      rw [if_neg (by omega), ih _ (by simp only [List.map_cons]; omega)]
      rfl

/-- A well-formed map is never truncated by `Tags.Bytes`. -/
theorem tagsBytes_full (t : Tags) (hw : wfTags t = true) (hne : t ≠ []) :
    tagsBytes (some t) = tagsBytesFull t := by
  have hl := ((wfTags_iff t).mp hw).2 hne
  rw [tagsBytesFull_eq, List.length_cons] at hl
  show (if t.isEmpty then [] else 0x40 :: tagsBytesLoop t (sortBytes (AMap.keys t)) 1) = _
  rw [if_neg (by simpa using hne), loop_full _ _ _ (by unfold tagsJoin at hl; omega)]
  rfl

/-- An empty stored value is written without '='. -/
def optVal (v : Bytes) : Option Bytes := if v.length > 0 then some v else none

theorem optVal_getD (v : Bytes) : (optVal v).getD [] = v := by
  cases v <;> rfl

theorem tagItem_eq (k v : Bytes) : tagItem k v = renderTag (k, optVal v) := by
  cases v with
  | nil => exact (List.append_nil k)
  | cons x v => exact (List.append_assoc k [0x3D] (x :: v)).symm

/-- The parse tree of the serialised tag section. -/
def tagList (t : Tags) : List (Bytes × Option Bytes) :=
  (sortBytes (AMap.keys t)).map fun k => (k, optVal ((AMap.get? t k).getD []))

theorem tagsJoin_eq (t : Tags) : tagsJoin t = joinWith [0x3B] ((tagList t).map renderTag) := by
  simp only [tagsJoin, tagList, List.map_map, Function.comp_def, ← tagItem_eq]
  rfl

theorem tagList_ne_nil (t : Tags) (hne : t ≠ []) : tagList t ≠ [] := by
  simpa [tagList] using sorted_ne_nil t hne

theorem mem_tagList {t : Tags} (h : TagsOK t) {x : Bytes × Option Bytes} (hx : x ∈ tagList t) :
    validTag x.1 = true ∧ ∀ v, x.2 = some v → wireSafeValue v = true := by
  obtain ⟨k, hk, rfl⟩ := List.mem_map.mp hx
  refine ⟨h.key ((mem_sortBytes k _).mp hk), fun v hv => ?_⟩
  have := h.val k
  unfold optVal at hv
  split at hv
  · cases hv; exact this
  · cases hv

theorem meaningTags_tagList (t : Tags) : meaningTags (tagList t) =
    (sortBytes (AMap.keys t)).foldl (fun m k => AMap.set m k ((AMap.get? t k).getD [])) [] := by
  simp only [meaningTags, tagList, List.foldl_map, optVal_getD]

theorem parseTags_full (t : Tags) (hw : wfTags t = true) (hne : t ≠ []) (k : Bytes) :
    AMap.get? (parseTags ((tagsBytesFull t).drop 1)) k = AMap.get? t k := by
  have hok := ((wfTags_iff t).mp hw).1
  rw [tagsBytesFull_eq, List.drop_one, List.tail_cons, tagsJoin_eq,
    parseTags_render _ (tagList_ne_nil t hne) (fun x hx => (mem_tagList hok hx).1)
      (fun x hx v hv => (wireSafe_no v ((mem_tagList hok hx).2 v hv)).1),
    meaningTags_tagList, get?_foldl_set (fun k => (AMap.get? t k).getD [])]
  by_cases hk : k ∈ AMap.keys t
  · rw [if_pos ((mem_sortBytes k _).mpr hk)]
    obtain ⟨v, hv⟩ := (mem_keys_iff_get? t k).mp hk
    rw [hv]; rfl
  · rw [if_neg (fun h => hk ((mem_sortBytes k _).mp h))]
    rw [(get?_eq_none_iff t k).mpr hk]; rfl

theorem wsum_append_single (l : List Bytes) (p : Bytes) : wsum (l ++ [p]) = wsum l + p.length + 1 := by
  simp [wsum, List.sum_append]; omega

theorem full_length (t : Tags) (hne : t ≠ []) :
    (tagsBytesFull t).length = wsum ((AMap.keys t).map (item t)) := by
  rw [tagsBytesFull_eq, List.length_cons, tagsJoin, joinWith_length 0x3B _ (by simpa using sorted_ne_nil t hne)]
  exact List.Perm.sum_nat (((sortBytes_perm _).map _).map _)

theorem item_set_eq (t : Tags) (k v : Bytes) : item (AMap.set t k v) k = tagItem k v := by
  unfold item; rw [get?_set, if_pos rfl]; rfl

theorem item_set_ne (t : Tags) (k v k' : Bytes) (h : k' ≠ k) : item (AMap.set t k v) k' = item t k' := by
  unfold item; rw [get?_set, if_neg h]

theorem wsum_set_not_mem (t : Tags) (k v : Bytes) (ks : List Bytes) (h : k ∉ ks) :
    wsum (ks.map (item (AMap.set t k v))) = wsum (ks.map (item t)) := by
  congr 1
  apply List.map_congr_left
  intro k' hk'
  exact item_set_ne t k v k' (fun e => h (e ▸ hk'))

theorem wsum_set_nodup (t : Tags) (k v : Bytes) (ks : List Bytes) (hnd : ks.Nodup) :
    wsum (ks.map (item (AMap.set t k v))) ≤ wsum (ks.map (item t)) + (tagItem k v).length := by
  induction ks with
  | nil => simp [wsum]
  | cons a ks ih =>
    rw [List.nodup_cons] at hnd
    rw [List.map_cons, List.map_cons, wsum_cons, wsum_cons]
    by_cases hak : a = k
    · subst hak
      rw [wsum_set_not_mem t a v ks hnd.1, item_set_eq]
      omega
    · rw [item_set_ne t k v a hak]
      have := ih hnd.2
      omega

theorem tagsLen_ne_nil (t : Tags) (hw : wfTags t = true) (hne : t ≠ []) :
    tagsLen (some t) = wsum ((AMap.keys t).map (item t)) := by
  unfold tagsLen; rw [tagsBytes_full t hw hne, full_length t hne]

theorem tagsSet_wf (t t' : Tags) (k v : Bytes) (hw : wfTags t = true) (h : tagsSet t k v = some t') :
    wfTags t' = true := by
  obtain ⟨hk, hv, hlen, rfl⟩ := tagsSet_some t t' k v h
  have W := ((wfTags_iff t).mp hw).1
  have hitem : (tagItem k (tagEncode v)).length ≤ k.length + (tagEncode v).length + 1 := by
    rw [tagItem_length]; split <;> omega
  have hsafe : wireSafeValue (tagEncode v) = true := by
    rcases hv with hv | hv
    · rw [List.eq_nil_of_length_eq_zero hv]; exact wireSafe_nil
    · exact validTagValue_wireSafe _ hv
  refine (wfTags_iff _).mpr ⟨W.set hk hsafe, fun _ => ?_⟩
  rw [full_length _ (set_ne_nil t k _)]
  by_cases hmem : k ∈ AMap.keys t
  · have hne : t ≠ [] := by intro e; subst e; simp [AMap.keys] at hmem
    rw [tagsLen_ne_nil t hw hne] at hlen
    rw [keys_set_of_mem t _ hmem]
    have := wsum_set_nodup t k (tagEncode v) _ W.nodup
    omega
  · rw [keys_set_of_not_mem t _ hmem, List.map_append, List.map_cons, List.map_nil,
      wsum_append_single, wsum_set_not_mem t k _ _ hmem, item_set_eq]
    by_cases hne : t = []
    · subst hne
      have : tagsLen (some ([] : Tags)) = 0 := rfl
      rw [this] at hlen
      simp only [AMap.keys, List.map_nil, wsum, List.sum_nil]
      omega
    · rw [tagsLen_ne_nil t hw hne] at hlen
      omega

end Girc.Proofs.Tags
