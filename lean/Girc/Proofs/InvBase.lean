import Girc.Spec.Inv
import Girc.Proofs.AMapLemmas
import Girc.Proofs.InvSort
/-
  The state invariant in lookup form: `InvL cs us` is `Inv` on the two maps with `AMap.get?` for list
  membership. With duplicate-free keys the two coincide (`inv_iff_invL`), and `get?` rewrites through `set` /
  `erase`, which is what the preservation proofs use. `invL_iff` reads `InvL` as: every entry is well formed on
  its own (`EntryOK`), and the membership relation seen from the channels is the one seen from the users
  (`listed`, both ways); `InvL.point` is the step that sets one pair of that relation. The Boolean checker the
  harness runs agrees with it (`invB_iff_invL`).
-/
namespace Girc.Proofs.InvBase
open Girc Girc.Model Girc.Spec

structure InvL (cs : AMap Channel) (us : AMap User) : Prop where
  chanKeys : (AMap.keys cs).Nodup
  userKeys : (AMap.keys us).Nodup
  chanKey : ∀ k ch, AMap.get? cs k = some ch → k = fold ch.name
  userKey : ∀ n u, AMap.get? us n = some u → n = fold u.nick
  chanToUser : ∀ k ch, AMap.get? cs k = some ch → ∀ n ∈ ch.users, ∃ u, AMap.get? us n = some u ∧ k ∈ u.chans
  userToChan : ∀ n u, AMap.get? us n = some u → ∀ k ∈ u.chans, ∃ ch, AMap.get? cs k = some ch ∧ n ∈ ch.users
  chanSorted : ∀ k ch, AMap.get? cs k = some ch → sortedStrict ch.users = true ∧ folded ch.users = true
  userSorted : ∀ n u, AMap.get? us n = some u → sortedStrict u.chans = true ∧ folded u.chans = true
  userHasChan : ∀ n u, AMap.get? us n = some u → u.chans ≠ []

theorem _root_.Girc.Spec.Inv.toInvL {st : St} (h : Inv st) : InvL st.channels st.users := by
  obtain ⟨hc, hu, h3, h4, h5, h6, h7, h8, h9⟩ := h
  simp only [mem_iff_get? hc, mem_iff_get? hu] at h3 h4 h5 h6 h7 h8 h9
  exact ⟨hc, hu, h3, h4, h5, h6, h7, h8, h9⟩

theorem inv_of_invL {st : St} (h : InvL st.channels st.users) : Inv st := by
  obtain ⟨hc, hu, h3, h4, h5, h6, h7, h8, h9⟩ := h
  simp only [← mem_iff_get? hc, ← mem_iff_get? hu] at h3 h4 h5 h6 h7 h8 h9
  exact ⟨hc, hu, h3, h4, h5, h6, h7, h8, h9⟩

theorem inv_iff_invL (st : St) : Inv st ↔ InvL st.channels st.users := ⟨Inv.toInvL, inv_of_invL⟩

theorem inv_of_invL_maps {st : St} {cs : AMap Channel} {us : AMap User} (h : InvL cs us)
    (hc : st.channels = cs) (hu : st.users = us) : Inv st := by
  subst hc; subst hu; exact inv_of_invL h

theorem inv_with_maps (st : St) {cs : AMap Channel} {us : AMap User} (h : InvL cs us) :
    Inv { st with channels := cs, users := us } := inv_of_invL h

theorem inv_of_maps_eq (st st' : St) (h : Inv st) (hc : st'.channels = st.channels) (hu : st'.users = st.users) :
    Inv st' :=
  inv_of_invL_maps h.toInvL hc hu

/-- What `InvL` asks of one entry: stored under `k`, named `nm`, listing `l`. -/
def EntryOK (k nm : Bytes) (l : List Bytes) : Prop :=
  k = fold nm ∧ sortedStrict l = true ∧ folded l = true

/-- The entry of `m` under `k` exists and its list `l` holds `x`. -/
def listed {β : Type} (m : AMap β) (l : β → List Bytes) (k x : Bytes) : Prop :=
  ∃ v, AMap.get? m k = some v ∧ x ∈ l v

theorem invL_iff {cs : AMap Channel} {us : AMap User} :
    InvL cs us ↔ (AMap.keys cs).Nodup ∧ (AMap.keys us).Nodup ∧
      (∀ k c, AMap.get? cs k = some c → EntryOK k c.name c.users) ∧
      (∀ n u, AMap.get? us n = some u → EntryOK n u.nick u.chans ∧ u.chans ≠ []) ∧
      ∀ k n, listed cs Channel.users k n ↔ listed us User.chans n k :=
  ⟨fun h => ⟨h.chanKeys, h.userKeys, fun k c hk => ⟨h.chanKey k c hk, h.chanSorted k c hk⟩,
      fun n u hn => ⟨⟨h.userKey n u hn, h.userSorted n u hn⟩, h.userHasChan n u hn⟩,
      fun k n => ⟨fun ⟨c, hc, hn⟩ => h.chanToUser k c hc n hn, fun ⟨u, hu, hk⟩ => h.userToChan n u hu k hk⟩⟩,
   fun ⟨h1, h2, hC, hU, hE⟩ => ⟨h1, h2, fun k c hk => (hC k c hk).1, fun n u hn => (hU n u hn).1.1,
      fun k c hk n hn => (hE k n).mp ⟨c, hk, hn⟩, fun n u hn k hk => (hE k n).mpr ⟨u, hn, hk⟩,
      fun k c hk => (hC k c hk).2, fun n u hn => (hU n u hn).1.2, fun n u hn => (hU n u hn).2⟩⟩

section listed
variable {β : Type} {m : AMap β} {l : β → List Bytes}

theorem listed_of_get {k : Bytes} {v : β} (hv : AMap.get? m k = some v) (x : Bytes) :
    listed m l k x ↔ x ∈ l v :=
  ⟨fun ⟨_, hv', hx⟩ => Option.some.inj (hv.symm.trans hv') ▸ hx, fun hx => ⟨v, hv, hx⟩⟩

theorem listed_of_point {m' : AMap β} {N : Bytes} {o : Option β}
    (hget : ∀ x, AMap.get? m' x = if x = N then o else AMap.get? m x) (l : β → List Bytes) (k x : Bytes) :
    listed m' l k x ↔ (k = N ∧ ∃ v, o = some v ∧ x ∈ l v) ∨ (k ≠ N ∧ listed m l k x) := by
  unfold listed
  simp only [get?_eq_some_of_point hget]
  exact ⟨fun ⟨v, hv, hx⟩ => hv.elim (fun h => Or.inl ⟨h.1, v, h.2, hx⟩) (fun h => Or.inr ⟨h.1, v, h.2, hx⟩),
    fun h => h.elim (fun ⟨e, v, hv, hx⟩ => ⟨v, Or.inl ⟨e, hv⟩, hx⟩) (fun ⟨e, v, hv, hx⟩ => ⟨v, Or.inr ⟨e, hv⟩, hx⟩)⟩

theorem listed_set (m : AMap β) (l : β → List Bytes) (K : Bytes) (v' : β) (k x : Bytes) :
    listed (AMap.set m K v') l k x ↔ (k = K ∧ x ∈ l v') ∨ (k ≠ K ∧ listed m l k x) := by
  rw [listed_of_point (fun x => get?_set m K x v')]
  exact or_congr_left (and_congr_right fun _ =>
    ⟨fun ⟨_, e, hx⟩ => Option.some.inj e ▸ hx, fun hx => ⟨v', rfl, hx⟩⟩)

theorem listed_erase (m : AMap β) (l : β → List Bytes) (K k x : Bytes) :
    listed (AMap.erase m K) l k x ↔ k ≠ K ∧ listed m l k x := by
  rw [listed_of_point (fun x => get?_erase m K x)]
  exact ⟨fun h => h.elim (fun ⟨_, _, e, _⟩ => nomatch e) id, Or.inr⟩

theorem listed_set_same {K : Bytes} {v v' : β} (hv : AMap.get? m K = some v) (hl : l v' = l v) (k x : Bytes) :
    listed (AMap.set m K v') l k x ↔ listed m l k x := by
  rw [listed_set, hl, ← listed_of_get hv]
  by_cases e : k = K
  · subst e; exact ⟨fun h => h.elim (fun h => h.2) (fun h => absurd rfl h.1), fun h => Or.inl ⟨rfl, h⟩⟩
  · exact ⟨fun h => h.elim (fun h => absurd h.1 e) (fun h => h.2), fun h => Or.inr ⟨e, h⟩⟩

theorem listed_of_map {m' : AMap β} {f : β → β} (hget : ∀ k, AMap.get? m' k = (AMap.get? m k).map f)
    (l : β → List Bytes) (k x : Bytes) :
    listed m' l k x ↔ ∃ v, AMap.get? m k = some v ∧ x ∈ l (f v) := by
  unfold listed
  rw [hget]
  constructor
  · rintro ⟨_, hv, hx⟩
    obtain ⟨v, hv', rfl⟩ := Option.map_eq_some_iff.mp hv
    exact ⟨v, hv', hx⟩
  · rintro ⟨v, hv, hx⟩
    exact ⟨f v, by rw [hv]; rfl, hx⟩

end listed

theorem EntryOK.sublist {k nm : Bytes} {l l' : List Bytes} (h : EntryOK k nm l) (hs : l'.Sublist l) :
    EntryOK k nm l' :=
  ⟨h.1, sortedStrict_sublist hs h.2.1, folded_of_subset (fun _ hx => hs.subset hx) h.2.2⟩

theorem lookupUser_eq (st : St) (n : Bytes) : st.lookupUser n = AMap.get? st.users (fold n) := rfl
theorem lookupChannel_eq (st : St) (k : Bytes) : st.lookupChannel k = AMap.get? st.channels (fold k) := rfl

theorem _root_.Girc.Spec.Inv.lookupUser_nick {st : St} (h : Inv st) {n : Bytes} {u : User} (hl : st.lookupUser n = some u) :
    fold n = fold u.nick := h.userKey _ _ (get?_some_mem hl)

theorem _root_.Girc.Spec.Inv.lookupChannel_name {st : St} (h : Inv st) {k : Bytes} {c : Channel} (hl : st.lookupChannel k = some c) :
    fold k = fold c.name := h.chanKey _ _ (get?_some_mem hl)

theorem _root_.Girc.Spec.Inv.lookupUser_chans_ne_nil {st : St} (h : Inv st) {n : Bytes} {u : User} (hl : st.lookupUser n = some u) :
    u.chans ≠ [] := h.userHasChan _ _ (get?_some_mem hl)

theorem _root_.Girc.Spec.Inv.lookupUser_iff_mem {st : St} (h : Inv st) (n : Bytes) (u : User) :
    st.lookupUser n = some u ↔ (fold n, u) ∈ st.users := (mem_iff_get? h.userKeys (fold n) u).symm

theorem _root_.Girc.Spec.Inv.lookupChannel_iff_mem {st : St} (h : Inv st) (k : Bytes) (c : Channel) :
    st.lookupChannel k = some c ↔ (fold k, c) ∈ st.channels := (mem_iff_get? h.chanKeys (fold k) c).symm

theorem InvL.mem_users_iff_mem_chans {cs : AMap Channel} {us : AMap User} (h : InvL cs us)
    {k n : Bytes} {c : Channel} {u : User} (hc : AMap.get? cs k = some c) (hu : AMap.get? us n = some u) :
    n ∈ c.users ↔ k ∈ u.chans := by
  rw [← listed_of_get hc, ← listed_of_get hu]
  exact (invL_iff.mp h).2.2.2.2 k n

theorem _root_.Girc.Spec.Inv.mem_users_iff_mem_chans {st : St} (h : Inv st) {k n : Bytes} {c : Channel} {u : User}
    (hc : (k, c) ∈ st.channels) (hu : (n, u) ∈ st.users) : n ∈ c.users ↔ k ∈ u.chans :=
  h.toInvL.mem_users_iff_mem_chans (mem_get? h.chanKeys hc) (mem_get? h.userKeys hu)

theorem InvL.chans_nodup {cs : AMap Channel} {us : AMap User} (h : InvL cs us) {n : Bytes} {u : User}
    (hu : AMap.get? us n = some u) : u.chans.Nodup := sortedStrict_nodup (h.userSorted n u hu).1

theorem InvL.users_nodup {cs : AMap Channel} {us : AMap User} (h : InvL cs us) {k : Bytes} {c : Channel}
    (hc : AMap.get? cs k = some c) : c.users.Nodup := sortedStrict_nodup (h.chanSorted k c hc).1

theorem InvL.fold_userKey {cs : AMap Channel} {us : AMap User} (h : InvL cs us) {n : Bytes} {u : User}
    (hu : AMap.get? us n = some u) : fold n = n := by
  rw [h.userKey n u hu, fold_idem]

theorem InvL.fold_chanKey {cs : AMap Channel} {us : AMap User} (h : InvL cs us) {k : Bytes} {c : Channel}
    (hc : AMap.get? cs k = some c) : fold k = k := by
  rw [h.chanKey k c hc, fold_idem]

theorem invL_nil : InvL [] [] := by
  refine ⟨List.nodup_nil, List.nodup_nil, ?_, ?_, ?_, ?_, ?_, ?_, ?_⟩ <;> intro _ _ h <;> cases h

theorem inv_init : Inv ({} : St) := inv_of_invL invL_nil

/-- Both ways of reading "the pair `(p, q)` is set to `b`, every other pair stays" off one side. -/
theorem point_iff {p q b A A' : Prop} (hA : p → (A' ↔ A)) :
    (p ∧ ((q ∧ b) ∨ (¬q ∧ A'))) ∨ (¬p ∧ A) ↔ ((p ∧ q) ∧ b) ∨ (¬(p ∧ q) ∧ A) := by
  by_cases hp : p <;> by_cases hq : q <;> simp [hp, hq, hA]

/-- Setting the one pair `(K, N)` of the membership relation to `b`: the channel under `K` becomes
    `c'`; the user map `us'` answers under `N` with `u'` (or not at all when `u'` lists nothing) and
    elsewhere as `us`. `u` is the user before: stored under `N`, or fresh with an empty list (`hu`). -/
theorem InvL.point {cs : AMap Channel} {us us' : AMap User} (h : InvL cs us) {K N : Bytes} {c c' : Channel}
    {u u' : User} {b : Prop} (hc : AMap.get? cs K = some c)
    (hu : ∀ j, j ∈ u.chans ↔ listed us User.chans N j) (hnd : (AMap.keys us').Nodup)
    (hget : ∀ x, AMap.get? us' x = if x = N then (if u'.chans = [] then none else some u') else AMap.get? us x)
    (hC' : EntryOK K c'.name c'.users) (hU' : EntryOK N u'.nick u'.chans)
    (hcm : ∀ x, x ∈ c'.users ↔ (x = N ∧ b) ∨ (x ≠ N ∧ x ∈ c.users))
    (hum : ∀ j, j ∈ u'.chans ↔ (j = K ∧ b) ∨ (j ≠ K ∧ j ∈ u.chans)) :
    InvL (AMap.set cs K c') us' := by
  obtain ⟨h1, _, hC, hU, hE⟩ := invL_iff.mp h
  refine invL_iff.mpr ⟨keys_set_nodup h1 K c', hnd, ?_, ?_, ?_⟩
  · intro k v hk
    rcases (get?_set_eq_some_iff _ _ _ _ _).mp hk with ⟨rfl, rfl⟩ | ⟨_, hk⟩
    · exact hC'
    · exact hC k v hk
  · intro n v hn
    rcases (get?_eq_some_of_point hget).mp hn with ⟨rfl, e⟩ | ⟨_, hn⟩
    · split at e
      · cases e
      · next hne => cases e; exact ⟨hU', hne⟩
    · exact hU n v hn
  · intro k x
    have hx' : (∃ v, (if u'.chans = [] then none else some u') = some v ∧ k ∈ v.chans) ↔ k ∈ u'.chans := by
      constructor
      · rintro ⟨v, e, hk⟩
        split at e
        · cases e
        · cases e; exact hk
      · exact fun hk => ⟨u', if_neg (List.ne_nil_of_mem hk), hk⟩
    rw [listed_set, listed_of_point hget, hx', hcm, hum, ← listed_of_get hc x, hu, ← hE, ← hE,
      point_iff (fun e => by rw [e]), point_iff (fun e => by rw [e]), and_comm (a := x = N)]

theorem inv_setUser_lookup {st : St} {n : Bytes} {u u' : User} (h : Inv st)
    (hl : st.lookupUser n = some u) (hn : u'.nick = u.nick) (hc : u'.chans = u.chans) :
    Inv (setUser st (fold n) u') := by
  obtain ⟨h1, h2, hC, hU, hE⟩ := invL_iff.mp h.toInvL
  refine inv_of_invL (st := setUser st (fold n) u') (invL_iff.mpr ⟨h1, keys_set_nodup h2 _ u', hC, ?_, fun k x => ?_⟩)
  · intro x v hx
    rcases (get?_set_eq_some_iff _ _ _ _ _).mp hx with ⟨rfl, rfl⟩ | ⟨_, hx⟩
    · rw [hn, hc]; exact hU _ u hl
    · exact hU x v hx
  · exact (hE k x).trans (listed_set_same hl hc x k).symm

theorem inv_setChannel_lookup {st : St} {k : Bytes} {c c' : Channel} (h : Inv st)
    (hl : st.lookupChannel k = some c) (hn : c'.name = c.name) (hu : c'.users = c.users) :
    Inv (setChannel st (fold k) c') := by
  obtain ⟨h1, h2, hC, hU, hE⟩ := invL_iff.mp h.toInvL
  refine inv_of_invL (st := setChannel st (fold k) c') (invL_iff.mpr ⟨keys_set_nodup h1 _ c', h2, ?_, hU, fun j x => ?_⟩)
  · intro x v hx
    rcases (get?_set_eq_some_iff _ _ _ _ _).mp hx with ⟨rfl, rfl⟩ | ⟨_, hx⟩
    · rw [hn, hu]; exact hC _ c hl
    · exact hC x v hx
  · exact (listed_set_same hl hu j x).trans (hE j x)

theorem nodupKeys_iff (l : List Bytes) : nodupKeys l = true ↔ l.Nodup := by
  induction l with
  | nil => exact ⟨fun _ => List.nodup_nil, fun _ => rfl⟩
  | cons x xs ih =>
    rw [nodupKeys, Bool.and_eq_true, Bool.not_eq_true', list_contains_eq_false_iff, ih, List.nodup_cons]

theorem userCheck_iff (us : AMap User) (n k : Bytes) :
    (match AMap.get? us n with | some u => u.chans.contains k | none => false) = true ↔ listed us User.chans n k := by
  unfold listed
  cases AMap.get? us n with
  | none => exact ⟨(fun h => nomatch h), fun ⟨_, h, _⟩ => nomatch h⟩
  | some u => exact ⟨fun h => ⟨u, rfl, List.contains_iff_mem.mp h⟩, fun ⟨_, e, h⟩ => Option.some.inj e ▸ List.contains_iff_mem.mpr h⟩

theorem chanCheck_iff (cs : AMap Channel) (k n : Bytes) :
    (match AMap.get? cs k with | some ch => ch.users.contains n | none => false) = true ↔ listed cs Channel.users k n := by
  unfold listed
  cases AMap.get? cs k with
  | none => exact ⟨(fun h => nomatch h), fun ⟨_, h, _⟩ => nomatch h⟩
  | some c => exact ⟨fun h => ⟨c, rfl, List.contains_iff_mem.mp h⟩, fun ⟨_, e, h⟩ => Option.some.inj e ▸ List.contains_iff_mem.mpr h⟩

theorem invB_iff_invL (st : St) : invB st = true ↔ InvL st.channels st.users := by
  unfold invB
  simp only [Bool.and_eq_true, List.all_eq_true, nodupKeys_iff, beq_iff_eq,
    Bool.not_eq_true', List.isEmpty_eq_false_iff]
  rw [invL_iff]
  constructor
  · rintro ⟨⟨⟨hcn, hun⟩, hC⟩, hU⟩
    refine ⟨hcn, hun, fun k c hk => ?_, fun n u hn => ?_, fun k n => ⟨?_, ?_⟩⟩
    · obtain ⟨⟨⟨h1, h2⟩, h3⟩, _⟩ := hC (k, c) (get?_some_mem hk)
      exact ⟨h1, h2, h3⟩
    · obtain ⟨⟨⟨⟨h1, h2⟩, h3⟩, h4⟩, _⟩ := hU (n, u) (get?_some_mem hn)
      exact ⟨⟨h1, h2, h3⟩, h4⟩
    · rintro ⟨c, hk, hn⟩; exact (userCheck_iff _ n k).mp ((hC (k, c) (get?_some_mem hk)).2 n hn)
    · rintro ⟨u, hn, hk⟩; exact (chanCheck_iff _ k n).mp ((hU (n, u) (get?_some_mem hn)).2 k hk)
  · rintro ⟨hcn, hun, hC, hU, hE⟩
    refine ⟨⟨⟨hcn, hun⟩, ?_⟩, ?_⟩
    · rintro ⟨k, c⟩ hm
      have hk := mem_get? hcn hm
      obtain ⟨h1, h2, h3⟩ := hC k c hk
      exact ⟨⟨⟨h1, h2⟩, h3⟩, fun n hn => (userCheck_iff _ n k).mpr ((hE k n).mp ⟨c, hk, hn⟩)⟩
    · rintro ⟨n, u⟩ hm
      have hn := mem_get? hun hm
      obtain ⟨⟨h1, h2, h3⟩, h4⟩ := hU n u hn
      exact ⟨⟨⟨⟨h1, h2⟩, h3⟩, h4⟩, fun k hk => (chanCheck_iff _ k n).mpr ((hE k n).mpr ⟨u, hn, hk⟩)⟩

theorem ite_ind {α : Sort _} {P : α → Prop} {c : Prop} [Decidable c] {a b : α}
    (ha : c → P a) (hb : ¬c → P b) : P (if c then a else b) := by
  by_cases hc : c
  · rw [if_pos hc]; exact ha hc
  · rw [if_neg hc]; exact hb hc

theorem ok_bind {α β : Type} (a : α) (f : α → M β) : (Except.ok a >>= f) = f a := rfl

theorem bind_ok_inv {α β : Type} {m : M α} {f : α → M β} {b : β} (h : (m >>= f) = .ok b) :
    ∃ a, m = .ok a ∧ f a = .ok b := by
  cases m with
  | error e => cases h
  | ok a => exact ⟨a, rfl, h⟩

theorem idx_ok (ps : List Bytes) (i : Nat) (h : i < ps.length) : idx ps i = .ok ps[i] := by
  unfold idx
  rw [List.getElem?_eq_getElem h]

end Girc.Proofs.InvBase
