import Girc.Model.Run
import Girc.Model.Sts
import Girc.Model.Log
import Girc.Spec.EventSpec
import Girc.Proofs.Roundtrip
import Girc.Proofs.ProtocolBAux
/-
  Capability negotiation (C08): what may be requested, the invariant on pending requests (`CapInv`),
  what each kind of CAP line concludes with, and that nothing CAP-related is written with tracking off.
  Strict transport security at the ACK (C10): `stsOnAck` on plaintext and on TLS, and the decisions read
  off it.
-/
namespace Girc.Proofs.ProtocolB
open Girc Girc.Model Girc.Spec Girc.Proofs.ProtocolBAux

/-! ## C08 capability negotiation -/

def capNames (cfg : Cfg) : List Bytes := AMap.keys (possibleCaps cfg)

/-- What the client could ever request: the built-ins, the configured extras, sasl iff SASL is
    configured, sts iff STS is enabled on a plaintext configuration (and did not just fail). -/
theorem possible_exact (cfg : Cfg) (k : Bytes) :
    AMap.contains (possibleCaps cfg) k = true ↔
      (k ∈ builtinCaps ∨ k ∈ AMap.keys cfg.supportedCaps ∨ (k = sSasl ∧ cfg.sasl.isSome) ∨
       (k = sSts ∧ cfg.disableSTS = false ∧ cfg.ssl = false ∧ ¬(cfg.stsRecentlyFailed = true ∧ cfg.disableSTSFallback = false))) := by
  rw [InvBase.contains_iff]; exact mem_keys_possibleCaps cfg k

/-- The capabilities an LS/NEW line (≥ 3 parameters) advertises. -/
def advertisedBy (e : Event) : List Bytes :=
  if e.params.length ≥ 3 && (e.params[1]? = some cLS || e.params[1]? = some cNEW) then AMap.keys (parseCap e.last) else []

/-- Pending requests are always advertised (on this connection) and supported. -/
def CapInv (cfg : Cfg) (adv : List Bytes) (st : St) : Prop :=
  ∀ k ∈ AMap.keys st.tmpCap, k ∈ adv ∧ AMap.contains (possibleCaps cfg) k = true

theorem capinv_step (cfg : Cfg) (adv : List Bytes) (st : St) (e : Event) (h : CapInv cfg adv st) :
    CapInv cfg (adv ++ advertisedBy e) (handleCAP cfg st e).1 := by
  have hold : ∀ k ∈ AMap.keys st.tmpCap, k ∈ adv ++ advertisedBy e ∧ AMap.contains (possibleCaps cfg) k = true :=
    fun k hk => ⟨List.mem_append_left _ (h k hk).1, (h k hk).2⟩
  rw [handleCAP_eq]
  cases hd : isDel e
  · cases hn : isNak e
    · cases hl : isLs e
      · cases ha : isAck e
        · simpa [CapInv] using hold
        · simp only [Bool.false_eq_true, ↓reduceIte]
          intro k hk
          rcases ackRes_cases cfg st e.last with ⟨s, _, h1⟩ | ⟨v, _, _, _, h1⟩ | ⟨v, _, _, _, h1⟩ <;> rw [h1] at hk
          · rw [ackTail_fst] at hk; cases hk
          · exact hold k hk
          · exact hold k hk
      · simp only [Bool.false_eq_true, ↓reduceIte]
        intro k hk
        have hadv : advertisedBy e = AMap.keys (parseCap e.last) := by
          unfold advertisedBy; unfold isLs at hl; rw [if_pos hl]
        rcases mem_keys_capCollect _ _ _ _ hk with h1 | ⟨h1, h2⟩
        · exact hold k h1
        · exact ⟨List.mem_append_right _ (hadv ▸ h1), h2⟩
    · simpa [CapInv] using hold
  · simpa [CapInv] using hold

theorem ackRes_out (cfg : Cfg) (st : St) (last : Bytes) :
    (ackRes cfg st last).2 = [Out.write capEnd] ∨
    (∃ m, cfg.sasl = some m ∧ (ackRes cfg st last).2 = [Out.write { command := cAUTHENTICATE, params := [m.method] }]) ∨
    (ackRes cfg st last).2 = [Out.inject { command := cERROR, params := [sStsInvalid] }] ∨
    (ackRes cfg st last).2 = [Out.close] := by
  rcases ackRes_cases cfg st last with ⟨s, _, h⟩ | ⟨v, _, _, _, h⟩ | ⟨v, _, _, _, h⟩
  · rw [h]
    rcases ackTail_snd cfg { st with enabledCap := capAck st.tmpCap st.enabledCap (splitOnByte SP last), sts := s } with h1 | ⟨m, h1, h2⟩
    · left; exact h1
    · right; left; exact ⟨m, h1, h2⟩
  · right; right; left; rw [h]
  · right; right; right; rw [h]

/-- Every CAP REQ the client writes lists exactly the pending capabilities (after this event). -/
theorem req_is_pending (cfg : Cfg) (st : St) (e : Event) (x : Bytes) :
    Out.write { command := cCAP, params := [cREQ, x] } ∈ (handleCAP cfg st e).2 →
      x = joinWith [SP] (sortBytes (AMap.keys (handleCAP cfg st e).1.tmpCap)) ∧ (handleCAP cfg st e).1.tmpCap ≠ [] := by
  rw [handleCAP_eq]
  cases hd : isDel e
  · cases hn : isNak e
    · cases hl : isLs e
      · cases ha : isAck e
        · simp
        · simp only [Bool.false_eq_true, ↓reduceIte]
          intro hm
          exfalso
          rcases ackRes_out cfg st e.last with h | ⟨m, _, h⟩ | h | h <;> rw [h] at hm <;>
            simp [capEnd] at hm
      · simp only [Bool.false_eq_true, ↓reduceIte]
        by_cases h3 : e.params.length = 3
        · by_cases he : (capCollect (possibleCaps cfg) st.tmpCap (parseCap e.last)).isEmpty = true
          · simp [h3, he, capEnd]
          · simp only [h3, he, Bool.false_eq_true, ↓reduceIte]
            intro hm
            simp at hm
            refine ⟨hm, ?_⟩
            intro hnil
            apply he
            simp [hnil]
        · simp [h3]
    · simp [capEnd]
  · simp

theorem handleCAP_ack3 (cfg : Cfg) (st : St) (e : Event) (a b c : Bytes) (hp : e.params = [a, b, c]) (hack : b = cACK) :
    handleCAP cfg st e = ackRes cfg st c := by
  obtain ⟨h1, h2, h3, h4⟩ := flags_of_params e a b [c] hp
  subst hack
  rw [handleCAP_eq, h1, h2, h3, h4, show e.last = c by simp [Event.last, hp]]
  rfl

/-- `HasCapability` -/
def hasCapability (connected : Bool) (st : St) (name : Bytes) : Bool :=
  connected && (AMap.keys st.enabledCap).any (fun k => toLowerAscii k = toLowerAscii name)

theorem ackRes_enabledCap (cfg : Cfg) (st : St) (last : Bytes) :
    (ackRes cfg st last).1.enabledCap = capAck st.tmpCap st.enabledCap (splitOnByte SP last) := by
  rcases ackRes_cases cfg st last with ⟨s, _, h⟩ | ⟨v, _, _, _, h⟩ | ⟨v, _, _, _, h⟩
  · rw [h, ackTail_fst]
  · rw [h]
  · rw [h]

/-- Tags reach the wire only while message-tags is enabled: without it the wire form of an event
    is byte for byte that of the same event without tags. -/
theorem tags_only_with_message_tags (st : St) (e : Event) (h : AMap.contains st.enabledCap sMessageTags = false) :
    wireEvent st e = eventBytes { e with tags := none } := by
  unfold wireEvent
  cases ht : e.tags with
  | none =>
    simp only [Option.isSome_none, Bool.false_and, Bool.false_eq_true, ↓reduceIte]
    rw [← ht]
  | some t =>
    simp only [Option.isSome_some, h, Bool.not_false, Bool.and_self, ↓reduceIte]
    unfold eventBytes rawBytes tagsWrite tagsBytes
    simp

/-- An output that is neither a CAP nor an AUTHENTICATE line. -/
def OkOut (o : Out) : Prop :=
  ∀ ev, (o = Out.write ev ∨ o = Out.send ev) → ev.command ≠ cCAP ∧ ev.command ≠ cAUTHENTICATE

theorem okOut_ctcpCall (cfg : Cfg) (ev : CTCPEvent) (time idle : Bytes) :
    ∀ o ∈ ctcpCall cfg ev time idle, OkOut o := by
  intro o ho
  rcases ctcpCall_cases cfg ev time idle with h | ⟨_, _, src, typ, msg, _, _, h⟩ <;> rw [h] at ho
  · cases ho
  · rw [List.mem_singleton.mp ho]
    intro ev h
    rcases h with h | h
    · cases h
    · injection h with h; subst h; constructor <;> (dsimp only; decide)

theorem okOut_nickCollision (cfg : Cfg) (st : St) (e : Event) :
    ∀ o ∈ nickCollision cfg st e, OkOut o := by
  intro o ho
  unfold nickCollision at ho
  simp only [] at ho
  have key : ∀ n : Bytes, OkOut (Out.send { command := cNICK, params := [n] }) := by
    intro n ev h
    rcases h with h | h
    · cases h
    · injection h with h; subst h; constructor <;> (dsimp only; decide)
  repeat' split at ho
  all_goals first
    | (simp only [List.mem_singleton] at ho; subst ho; exact key _)
    | (simp at ho)

theorem okOut_handleCommand (cfg : Cfg) (cs : CState) (e : Event) (cs' : CState) (outs : List Out)
    (hd : cfg.disableTracking = true) (h : handleCommand cfg cs e = .ok (cs', outs)) :
    ∀ o ∈ outs, OkOut o := by
  unfold handleCommand at h
  simp only [hd, ↓reduceIte] at h
  split at h
  · injection h with h; injection h with _ h; subst h
    intro o ho
    simp only [List.mem_singleton] at ho; subst ho
    intro ev h
    rcases h with h | h
    · injection h with h; subst h; constructor <;> (dsimp only; decide)
    · cases h
  · split at h
    · injection h with h; injection h with _ h; subst h; simp
    · split at h
      · injection h with h; injection h with _ h; subst h
        exact okOut_nickCollision cfg cs.st e
      · injection h with h; injection h with _ h; subst h; simp

/-! ## C10 strict transport security -/

def usablePort (v : CapVal) : Option Int :=
  match capValGet v sPort with
  | some p => match atoi p with
    | some n => if n < 21 || n > 65535 then none else some n
    | none => none
  | none => none

theorem usablePort_range {v : CapVal} {p : Int} (h : usablePort v = some p) : 21 ≤ p ∧ p ≤ 65535 := by
  unfold usablePort at h
  split at h
  · split at h
    · split at h
      · cases h
      · rename_i hn
        cases h
        simp only [Bool.or_eq_true, decide_eq_true_eq, not_or, Int.not_lt] at hn
        omega
    · cases h
  · cases h

/-- On plaintext only the port key counts: a usable port starts the upgrade, anything else aborts. -/
theorem stsOnAck_plain (cfg : Cfg) (sts : Sts) (v : CapVal) (htls : cfg.tlsActive = false) :
    stsOnAck cfg sts v = match usablePort v with
      | some p => ({ sts with upgradePort := p, beginUpgrade := true }, .upgrade)
      | none => (sts, .abort) := by
  unfold stsOnAck usablePort
  rw [htls]
  cases capValGet v sPort with
  | none => rfl
  | some port =>
    dsimp only
    cases atoi port with
    | none => rfl
    | some n =>
      dsimp only
      by_cases hn : (n < 21 || n > 65535) = true
      · simp only [hn, if_true]; rfl
      · simp only [hn]; rfl

/-- On TLS the port key is ignored: the duration (required) and preload are recorded. -/
theorem stsOnAck_tls (cfg : Cfg) (sts : Sts) (v : CapVal) (htls : cfg.tlsActive = true) :
    stsOnAck cfg sts v =
      ({ sts with
          persistenceDuration := match capValGet v sDuration with | some d => (atoi d).getD 0 | none => sts.persistenceDuration,
          preload := match capValGet v sPreload with | some p => (parseBool p).getD false | none => sts.preload },
       if (capValGet v sDuration).isSome then .continue_ else .abort) := by
  unfold stsOnAck
  rw [htls]
  cases capValGet v sDuration <;> cases capValGet v sPreload <;> rfl

theorem upgrade_silent (cfg : Cfg) (st : St) (e : Event) (a b c : Bytes) (v : CapVal) (p : Int)
    (hp : e.params = [a, b, c]) (hack : b = cACK) (hd : cfg.disableSTS = false) (htls : cfg.tlsActive = false)
    (hv : AMap.get? (capAck st.tmpCap st.enabledCap (splitOnByte SP c)) sSts = some v) (hport : usablePort v = some p) :
    (handleCAP cfg st e).2 = [Out.close] ∧ (handleCAP cfg st e).1.sts.upgradePort = p ∧
      (handleCAP cfg st e).1.sts.beginUpgrade = true := by
  rw [handleCAP_ack3 cfg st e a b c hp hack]
  unfold ackRes
  simp only [hv, hd, Bool.false_eq_true, ↓reduceIte, stsOnAck_plain cfg st.sts v htls, hport]
  exact ⟨trivial, trivial, trivial⟩

/-- Plaintext without a usable port: abort, and the stored policy is untouched (not retained). -/
theorem invalid_policy_not_retained (cfg : Cfg) (sts : Sts) (v : CapVal)
    (htls : cfg.tlsActive = false) (hp : usablePort v = none) :
    stsOnAck cfg sts v = (sts, .abort) := by
  rw [stsOnAck_plain cfg sts v htls, hp]

/-- On TLS the port key is ignored and a duration is required; without it: abort and the
    persistence policy is not recorded. -/
theorem tls_needs_duration (cfg : Cfg) (sts : Sts) (v : CapVal)
    (htls : cfg.tlsActive = true) (hd : capValGet v sDuration = none) :
    (stsOnAck cfg sts v).2 = .abort ∧ (stsOnAck cfg sts v).1.persistenceDuration = sts.persistenceDuration ∧
    (stsOnAck cfg sts v).1.upgradePort = sts.upgradePort := by
  rw [stsOnAck_tls cfg sts v htls, hd]
  exact ⟨rfl, rfl, rfl⟩

theorem tls_ignores_port (cfg : Cfg) (sts : Sts) (v : CapVal) (htls : cfg.tlsActive = true) :
    (stsOnAck cfg sts v).1.upgradePort = sts.upgradePort ∧ (stsOnAck cfg sts v).2 ≠ .upgrade := by
  rw [stsOnAck_tls cfg sts v htls]
  refine ⟨rfl, ?_⟩
  cases (capValGet v sDuration).isSome <;> exact fun h => StsAction.noConfusion h

/-- Once a policy is stored every later dial uses TLS on its port; only an EXPIRED policy with
    fallback allowed is ever dropped, and only by a failed dial. -/
theorem policy_sticks (cp : Int) (ssl : Bool) (s : Sts) (h : s.enabled = true) :
    planDial cp ssl s = (s.upgradePort, true) ∧
    (∀ disableFallback, (onDialFail disableFallback false s) = (s, .stsUpgradeFailed)) ∧
    (∀ expired, (onDialFail true expired s) = (s, .stsUpgradeFailed)) ∧
    (afterCleanEnd s).1.upgradePort = s.upgradePort := by
  refine ⟨by simp [planDial, h], fun d => by simp [onDialFail, h], fun x => by simp [onDialFail, h], ?_⟩
  unfold afterCleanEnd
  split <;> rfl

theorem ackRes_sts_disabled (cfg : Cfg) (st : St) (last : Bytes) (h : cfg.disableSTS = true) :
    (ackRes cfg st last).1.sts = st.sts := by
  rcases ackRes_cases cfg st last with ⟨s, hs, h1⟩ | ⟨v, _, h2, _, _⟩ | ⟨v, _, h2, _, _⟩
  · rw [h1, ackTail_fst, hs h]
  · rw [h] at h2; cases h2
  · rw [h] at h2; cases h2

theorem contains_possible_sts (cfg : Cfg) (h : cfg.disableSTS = true ∨ cfg.ssl = true) :
    AMap.contains (possibleCaps cfg) sSts = AMap.contains cfg.supportedCaps sSts := by
  rw [Bool.eq_iff_iff, possible_exact, InvBase.contains_iff]
  have h1 : sSts ∉ builtinCaps := by decide
  have h2 : sSts ≠ sSasl := by decide
  rcases h with h | h <;> simp [h1, h2, h]

end Girc.Proofs.ProtocolB
