import Girc.Gen.Funcs
import Girc.Proofs.TransAttr
import Girc.Proofs.GoOps
import Girc.Proofs.BytesLemmas
import Girc.Proofs.AMapLemmas
/-
  What the translator-equivalence proofs (Proofs/Trans*.lean) share: facts about the GoSem run-time on the values the
  translated code meets, the simp set `gosem` for its `Except` plumbing, and `forIdx`, the one induction on fuel that
  every translated `for` loop instantiates.

  Names in Proofs/Trans*.lean: `F_eq` says that the generated `Fn.F` returns the model's value; `F_go` gives the exact
  value the Go code computes where that differs from the model's; `x_cond` rewrites a condition of the Go code as the
  model's predicate.
-/
namespace Girc.Proofs.Trans
open Girc Girc.Model Girc.Go

theorem len_eq {α : Type} (s : List α) : len s = (s.length : Int) := rfl

@[gosem] theorem ok_bind {α β : Type} (a : α) (f : α → Except Fault β) : (Except.ok a >>= f) = f a := rfl

theorem err_bind {α β : Type} (e : Fault) (f : α → Except Fault β) : (Except.error e >>= f) = .error e := rfl

theorem ok_bind' {α β : Type} (a : α) (f : α → Except Fault β) : (Except.ok a >>= f) = f a := rfl

@[gosem] theorem pure_eq {α : Type} (a : α) : (pure a : Except Fault α) = .ok a := rfl

attribute [gosem] deref_some andE_ok_ok orE_ok_ok andE_true andE_false orE_true orE_false Bool.not_true Bool.not_false
  Bool.false_eq_true if_true if_false

theorem map_eq_ok {α β : Type} {x : Except Fault α} {f : α → β} {v : β} (h : x.map f = .ok v) :
    ∃ r, x = .ok r ∧ f r = v := by
  cases x with
  | error e => cases h
  | ok r => exact ⟨r, rfl, Except.ok.inj h⟩

theorem fuelTo_nat (a b : Nat) : fuelTo (a : Int) (b : Int) = b - a + 1 := by
  unfold fuelTo; omega

theorem fuelTo_len {α : Type} (a : Nat) (s : List α) : fuelTo (a : Int) (len s) = s.length - a + 1 := by
  unfold fuelTo len; omega

theorem decide_congr {p q : Prop} [Decidable p] [Decidable q] (h : p ↔ q) : decide p = decide q := by
  simp [h]

theorem setA_last {α : Type} (l : List α) {i : Int} (x : α) (h : l ≠ []) (hi : i = len l) :
    setA l (i - 1) x = .ok (l.dropLast ++ [x]) := by
  obtain ⟨front, last, rfl⟩ : ∃ f z, l = f ++ [z] := ⟨_, _, (List.dropLast_concat_getLast h).symm⟩
  have e : i - 1 = (front.length : Int) := by
    rw [hi, len, List.length_append, List.length_singleton]; omega
  rw [e, setA_ofNat x (by rw [List.length_append, List.length_singleton]; omega), List.dropLast_concat,
    List.set_append_right _ _ (Nat.le_refl _), Nat.sub_self]
  rfl

theorem take_succ_set {α : Type} : ∀ (l : List α) (n : Nat) (v : α), n < l.length →
    (l.set n v).take (n + 1) = l.take n ++ [v]
  | [], _, _, h => by simp at h
  | _ :: _, 0, _, _ => by simp
  | x :: xs, n + 1, v, h => by
    simp only [List.set_cons_succ, List.take_succ_cons, List.cons_append]
    rw [take_succ_set xs n v (by simpa using h)]

theorem drop_succ_set {α : Type} : ∀ (l : List α) (n : Nat) (v : α), (l.set n v).drop (n + 1) = l.drop (n + 1)
  | [], _, _ => by simp
  | _ :: _, 0, _ => by simp
  | x :: xs, n + 1, v => by
    simp only [List.set_cons_succ, List.drop_succ_cons]
    exact drop_succ_set xs n v

theorem sliceI_append_left (A C : Bytes) : sliceI (A ++ C) 0 (A.length : Int) = .ok A :=
  (sliceI_fromZero (A ++ C) A.length rfl (by rw [List.length_append]; omega)).trans (by rw [List.take_left])

theorem sliceI_append_right (A C : Bytes) {lo : Int} (h : lo = A.length) : sliceI (A ++ C) lo (len (A ++ C)) = .ok C :=
  (sliceI_toEnd (A ++ C) A.length h (by rw [List.length_append]; omega)).trans (by rw [List.drop_left])

theorem sliceI_append_mid (A B C : Bytes) {lo hi : Int} (hlo : lo = A.length) (hhi : hi = (A.length + B.length : Nat)) :
    sliceI (A ++ B ++ C) lo hi = .ok B :=
  (sliceI_ofNat (A ++ B ++ C) A.length (A.length + B.length) hlo hhi (Nat.le_add_right _ _)
    (by simp only [List.length_append]; omega)).trans
    (by rw [List.append_assoc, List.drop_left, Nat.add_sub_cancel_left, List.take_left])

theorem makeA_ofNat {α : Type} (z : α) (n : Nat) : makeA z (n : Int) = .ok (List.replicate n z) := by
  rw [makeA, if_pos (Int.natCast_nonneg n), Int.toNat_natCast]

theorem makeA_len {α : Type} (z : α) (s : List α) : makeA z (len s) = .ok (List.replicate s.length z) :=
  makeA_ofNat z s.length

theorem copyA_append {α : Type} (B C src : List α) (h : B.length = src.length) : copyA (B ++ C) src = src ++ C := by
  rw [copyA, List.take_of_length_le (by rw [List.length_append]; omega), ← h, List.drop_left]

theorem copyA_replicate {α : Type} (z : α) (l : List α) : copyA (List.replicate l.length z) l = l := by
  simpa using copyA_append (List.replicate l.length z) [] l List.length_replicate

theorem copyA_length {α : Type} (dst src : List α) : (copyA dst src).length = dst.length := by
  unfold copyA
  simp only [List.length_append, List.length_take, List.length_drop]
  omega

theorem indexOf_isSome (b : Byte) : ∀ s : Bytes, (indexOf b s).isSome = s.contains b
  | [] => rfl
  | x :: xs => by
    rw [indexOf, List.contains_cons]
    by_cases h : x = b
    · rw [if_pos h, h, beq_self_eq_true]; rfl
    · rw [if_neg h, Option.isSome_map, indexOf_isSome b xs, beq_false_of_ne (Ne.symm h), Bool.false_or]

theorem indexByteI_ne (s : Bytes) (b : Byte) : (indexByteI s b != -1) = s.contains b := by
  rw [← indexOf_isSome, indexByteI]
  cases indexOf b s with
  | none => rfl
  | some n => exact (bne_iff_ne.mpr (by omega) : ((n : Int) != -1) = true)

theorem indexByteI_beq (s : Bytes) (b : Byte) : (indexByteI s b == -1) = !s.contains b := by
  rw [← indexByteI_ne, bne, Bool.not_not]

theorem sliceI_before {s : Bytes} {b : Byte} {k : Nat} (h : indexOf b s = some k) :
    sliceI s 0 (k : Int) = .ok (s.take k) :=
  sliceI_fromZero s k rfl (Nat.le_of_lt (BytesLemmas.indexOf_lt h))

theorem sliceI_after {s : Bytes} {b : Byte} {k : Nat} (h : indexOf b s = some k) :
    sliceI s ((k : Int) + 1) (len s) = .ok (s.drop (k + 1)) :=
  sliceI_toEnd s (k + 1) (Int.natCast_succ k).symm (BytesLemmas.indexOf_lt h)

theorem isPrefixOf_singleton (b x : Byte) (xs : Bytes) : [b].isPrefixOf (x :: xs) = (b == x) := by
  rw [List.isPrefixOf_cons_cons, List.isPrefixOf_nil_left, Bool.and_true]

theorem findSub_byte (b : Byte) : ∀ s : Bytes, findSub [b] s = indexOf b s
  | [] => rfl
  | x :: xs => by
    rw [findSub, indexOf, findSub_byte b xs, isPrefixOf_singleton]
    by_cases h : x = b
    · rw [if_pos h, h, beq_self_eq_true, if_pos rfl]
    · rw [if_neg h, beq_false_of_ne (Ne.symm h), if_neg Bool.false_ne_true]

theorem indexI_single (s : Bytes) (b : Byte) : indexI s [b] = indexByteI s b := by
  rw [indexI, indexByteI, findSub_byte]

theorem containsSub_byte (s : Bytes) (b : Byte) : containsSub s [b] = s.contains b := by
  rw [containsSub, findSub_byte, indexOf_isSome]

theorem hasPrefix_byte (s : Bytes) (b : Byte) : hasPrefix s [b] = decide (s.head? = some b) := by
  cases s with
  | nil => rfl
  | cons x xs =>
    rw [hasPrefix, isPrefixOf_singleton, List.head?_cons, Bool.beq_eq_decide_eq]
    exact decide_congr ⟨fun h => h ▸ rfl, fun h => (Option.some.inj h).symm⟩

theorem strOfByte_ascii (b : Byte) (h : b < 0x80) : strOfByte b = [b] := if_pos h

theorem strOfByte_beq (c k : Byte) (hk : k < 0x80) : (strOfByte c == [k]) = decide (c = k) := by
  unfold strOfByte
  by_cases h : c < 0x80
  · rw [if_pos h]
    by_cases e : c = k
    · rw [e, beq_self_eq_true, decide_eq_true rfl]
    · rw [decide_eq_false e, beq_false_of_ne (fun h' => e (List.cons.inj h').1)]
  · rw [if_neg h, beq_false_of_ne (fun h' => by simp at h'), decide_eq_false (fun e : c = k => h (e ▸ hk))]

theorem decide_lt_len {α : Type} {xs : List α} {n : Nat} (h : n < xs.length) : decide ((n : Int) < len xs) = true :=
  decide_eq_true (Int.ofNat_lt.mpr h)

theorem decide_lt_len_of_le {α : Type} {xs : List α} {n : Nat} (h : xs.length ≤ n) :
    decide ((n : Int) < len xs) = false :=
  decide_eq_false fun h' => Nat.not_lt.mpr h (Int.ofNat_lt.mp h')

@[gosem] theorem decide_len_lt_len {α : Type} (xs : List α) : decide ((xs.length : Int) < len xs) = false :=
  decide_lt_len_of_le (Nat.le_refl _)

theorem decide_len_pos {α : Type} (s : List α) : decide (len s > 0) = decide (s.length > 0) :=
  decide_congr Int.natCast_pos

theorem decide_lt_pred_len {α : Type} (l : List α) (n : Nat) :
    decide ((n : Int) < (l.length : Int) - 1) = !(l.drop (n + 1)).isEmpty := by
  cases hd : l.drop (n + 1) with
  | nil => exact decide_eq_false (by have := List.drop_eq_nil_iff.mp hd; omega)
  | cons => exact decide_eq_true (by have := congrArg List.length hd; rw [List.length_drop, List.length_cons] at this; omega)

theorem beq_pred_len {α : Type} {l : List α} {n : Nat} (hn : n < l.length) :
    ((n : Int) == len l - 1) = (l.drop (n + 1)).isEmpty := by
  rw [len]
  cases hd : l.drop (n + 1) with
  | nil => exact beq_iff_eq.mpr (by have := List.drop_eq_nil_iff.mp hd; omega)
  | cons =>
    exact beq_false_of_ne (by have := congrArg List.length hd; rw [List.length_drop, List.length_cons] at this; omega)

theorem fuelTo_gt (n hi : Nat) : hi - n < fuelTo (n : Int) (hi : Int) := by
  unfold fuelTo; omega

/-! A loop `for i := n; i < hi; i++` is translated into a function `F fuel state i` that fails when the fuel runs out.
`forIdx` is the induction every such loop needs: it is enough to say what the exit test does at `hi` and what one pass
does, given the result of the passes after it.  `G n s` is what the loop returns when entered at index `n` in state `s`. -/

theorem forIdx {σ R : Type} (F : Nat → σ → Int → Except Fault R) (G : Nat → σ → R) (hi : Nat)
    (hexit : ∀ fuel s, F (fuel + 1) s hi = .ok (G hi s))
    (hstep : ∀ fuel (n : Nat) s, n < hi → (∀ s', F fuel s' ((n : Int) + 1) = .ok (G (n + 1) s')) →
      F (fuel + 1) s n = .ok (G n s)) :
    ∀ fuel (n : Nat) s, n ≤ hi → hi - n < fuel → F fuel s n = .ok (G n s)
  | 0, _, _, _, h => by omega
  | fuel + 1, n, s, hn, hf => by
    rcases Nat.lt_or_ge n hi with hlt | hge
    · refine hstep fuel n s hlt fun s' => ?_
      rw [← Int.natCast_succ]
      exact forIdx F G hi hexit hstep fuel (n + 1) s' hlt (by omega)
    · obtain rfl : n = hi := by omega
      exact hexit fuel s

theorem forIdx_len {α σ R : Type} (xs : List α) (F : Nat → σ → Int → Except Fault R) (G : Nat → σ → R)
    (hexit : ∀ fuel s, F (fuel + 1) s xs.length = .ok (G xs.length s))
    (hstep : ∀ fuel (n : Nat) s x, n < xs.length → xs[n]? = some x →
      (∀ s', F fuel s' ((n : Int) + 1) = .ok (G (n + 1) s')) → F (fuel + 1) s n = .ok (G n s))
    (n : Nat) (s : σ) (hn : n ≤ xs.length) : F (fuelTo n (len xs)) s n = .ok (G n s) :=
  forIdx F G xs.length hexit
    (fun fuel n s hlt ih => hstep fuel n s xs[n] hlt (List.getElem?_eq_getElem hlt) ih) _ n s hn (fuelTo_gt n _)

theorem forAny {α ρ : Type} (xs : List α) (F : Nat → Int → Except Fault (LoopR Unit ρ)) (q : α → Bool) (r : ρ)
    (hexit : ∀ fuel, F (fuel + 1) xs.length = .ok (.done ()))
    (hstep : ∀ fuel (n : Nat) x, n < xs.length → xs[n]? = some x →
      F (fuel + 1) n = if q x then .ok (.ret r) else F fuel ((n : Int) + 1))
    (n : Nat) (hn : n ≤ xs.length) :
    F (fuelTo n (len xs)) n = .ok (if (xs.drop n).any q then .ret r else .done ()) := by
  refine forIdx_len xs (fun fuel (_ : Unit) i => F fuel i) (fun n _ => if (xs.drop n).any q then .ret r else .done ())
    (fun fuel _ => ?_) (fun fuel n _ x hlt hx ih => ?_) n () hn
  · simp only [hexit, List.drop_length, List.any_nil, Bool.false_eq_true, if_false]
  · rw [hstep fuel n x hlt hx, drop_cons_of_getElem? hx, List.any_cons]
    cases q x
    · exact ih ()
    · rfl

theorem forAll {α ρ : Type} (xs : List α) (F : Nat → Int → Except Fault (LoopR Unit ρ)) (p : α → Bool) (r : ρ)
    (hexit : ∀ fuel, F (fuel + 1) xs.length = .ok (.done ()))
    (hstep : ∀ fuel (n : Nat) x, n < xs.length → xs[n]? = some x →
      F (fuel + 1) n = if !p x then .ok (.ret r) else F fuel ((n : Int) + 1))
    (n : Nat) (hn : n ≤ xs.length) :
    F (fuelTo n (len xs)) n = .ok (if (xs.drop n).all p then .done () else .ret r) := by
  rw [forAny xs F (fun x => !p x) r hexit hstep n hn, List.all_eq_not_any_not]
  cases (xs.drop n).any fun x => !p x <;> rfl

theorem forFold {α σ ρ : Type} (xs : List α) (F : Nat → σ → Int → Except Fault (LoopR σ ρ)) (f : σ → α → σ)
    (hexit : ∀ fuel s, F (fuel + 1) s xs.length = .ok (.done s))
    (hstep : ∀ fuel (n : Nat) s x, n < xs.length → xs[n]? = some x →
      F (fuel + 1) s n = F fuel (f s x) ((n : Int) + 1))
    (n : Nat) (s : σ) (hn : n ≤ xs.length) :
    F (fuelTo n (len xs)) s n = .ok (.done ((xs.drop n).foldl f s)) := by
  refine forIdx_len xs F (fun n s => .done ((xs.drop n).foldl f s)) (fun fuel s => ?_)
    (fun fuel n s x hlt hx ih => ?_) n s hn
  · rw [hexit, List.drop_length, List.foldl_nil]
  · rw [hstep fuel n s x hlt hx, ih, drop_cons_of_getElem? hx, List.foldl_cons]

/-- The search loop `for i := range xs { if q xs[i] { j = i; break } }`. -/
theorem forFirst {α ρ : Type} (xs : List α) (F : Nat → Int → Int → Except Fault (LoopR Int ρ)) (q : α → Bool)
    (hexit : ∀ fuel j, F (fuel + 1) j xs.length = .ok (.done j))
    (hstep : ∀ fuel (n : Nat) j x, n < xs.length → xs[n]? = some x →
      F (fuel + 1) j n = if q x then .ok (.done n) else F fuel j ((n : Int) + 1))
    (j : Int) :
    F (fuelTo 0 (len xs)) j 0 = .ok (.done (match xs.findIdx? q with | some d => (d : Int) | none => j)) := by
  have := forIdx_len xs F
    (fun n j => .done (match (xs.drop n).findIdx? q with | some d => ((n + d : Nat) : Int) | none => j))
    (fun fuel j => by rw [hexit, List.drop_length, List.findIdx?_nil])
    (fun fuel n j x hlt hx ih => by
      rw [hstep fuel n j x hlt hx, drop_cons_of_getElem? hx, List.findIdx?_cons]
      cases q x
      · rw [if_neg Bool.false_ne_true, if_neg Bool.false_ne_true, ih]
        cases (xs.drop (n + 1)).findIdx? q with
        | none => rfl
        | some d => simp only [Option.map_some, Nat.add_assoc, Nat.add_comm 1 d]
      · rfl)
    0 j (Nat.zero_le _)
  simpa only [List.drop_zero, Nat.zero_add, Int.natCast_zero] using this

theorem foldl_snoc {α β : Type} (g : α → β) : ∀ (l : List α) (init : List β),
    l.foldl (fun o x => o ++ [g x]) init = init ++ l.map g
  | [], init => (List.append_nil init).symm
  | x :: l, init => by rw [List.foldl_cons, foldl_snoc g l, List.map_cons, List.append_assoc, List.singleton_append]

/-- A `for … range` over the keys `ks` of a map, without early exit; `r` is how the loop's variables represent the
    folded value. -/
theorem forRangeVia {α σ τ ρ : Type} (F : Nat → List α → τ → Except Fault (LoopR τ ρ)) (r : σ → τ) (f : σ → α → σ)
    (hnil : ∀ fuel s, F (fuel + 1) [] (r s) = .ok (.done (r s)))
    (hcons : ∀ fuel k ks s, F (fuel + 1) (k :: ks) (r s) = F fuel ks (r (f s k))) :
    ∀ fuel ks s, ks.length < fuel → F fuel ks (r s) = .ok (.done (r (ks.foldl f s)))
  | 0, _, _, h => by omega
  | fuel + 1, [], s, _ => hnil fuel s
  | fuel + 1, k :: ks, s, h => by
    rw [hcons, List.foldl_cons]
    exact forRangeVia F r f hnil hcons fuel ks _ (Nat.lt_of_succ_lt_succ h)

theorem forRange {α σ ρ : Type} (F : Nat → List α → σ → Except Fault (LoopR σ ρ)) (f : σ → α → σ)
    (hnil : ∀ fuel s, F (fuel + 1) [] s = .ok (.done s))
    (hcons : ∀ fuel k ks s, F (fuel + 1) (k :: ks) s = F fuel ks (f s k)) (ks : List α) (s : σ) :
    F (ks.length + 1) ks s = .ok (.done (ks.foldl f s)) :=
  forRangeVia F id f hnil hcons _ ks s (Nat.lt_succ_self _)

theorem forRange_append {α β ρ : Type} (F : Nat → List α → List β → Except Fault (LoopR (List β) ρ)) (g : α → β)
    (hnil : ∀ fuel s, F (fuel + 1) [] s = .ok (.done s))
    (hcons : ∀ fuel k ks s, F (fuel + 1) (k :: ks) s = F fuel ks (s ++ [g k]))
    (fuel : Nat) (ks : List α) (s : List β) (h : ks.length < fuel) : F fuel ks s = .ok (.done (s ++ ks.map g)) := by
  exact (forRangeVia F id (fun s k => s ++ [g k]) hnil hcons fuel ks s h).trans (by rw [id, foldl_snoc])

theorem lookup_perm {β : Type} {l₁ l₂ : List (Bytes × β)} (h : l₁.Perm l₂) (hnd : (l₁.map (·.1)).Nodup) (k : Bytes) :
    l₁.lookup k = l₂.lookup k :=
  Option.ext fun _ =>
    ⟨fun e => InvBase.mem_get? ((h.map _).nodup_iff.mp hnd) (h.mem_iff.mp (InvBase.get?_some_mem e)),
     fun e => InvBase.mem_get? hnd (h.mem_iff.mpr (InvBase.get?_some_mem e))⟩

end Girc.Proofs.Trans
