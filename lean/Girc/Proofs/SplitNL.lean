import Girc.Proofs.SplitSep
import Girc.Proofs.SplitTrim
import Girc.Proofs.BytesLemmas
/-
  The newline pass of the splitter (`expandNewlines_cases`): its non-empty words are exactly the
  CR/LF-separated pieces of the words, and they stay separator-free and valid. With it the word list the
  splitter packs (sanitise, trim, split at separators, break at CR/LF) is the `wordsOf` of the text.
-/
namespace Girc.Proofs.SplitNL
open Girc Girc.Model Girc.Spec Girc.Proofs.Utf8 Girc.Proofs.RoundtripUtf8 Girc.Proofs.SplitUtf8
open Girc.Proofs.SplitSep Girc.Proofs.BytesLemmas

def cr2lf (b : Byte) : Byte := if b = 0x0D then 0x0A else b

/-- The CR/LF-separated non-empty pieces of a word (as in `wordsOf`). -/
def nlSplit (w : Bytes) : List Bytes :=
  (splitOnByte 0x0A (w.map cr2lf)).filter (fun x => !x.isEmpty)

theorem isNL_iff (b : Byte) : isNL b = true ↔ b = 0x0A ∨ b = 0x0D := by simp [isNL]

theorem nlSplit_noNL (w : Bytes) (h : w.any isNL = false) : nlSplit w = if w.isEmpty then [] else [w] := by
  have hall : ∀ x ∈ w, ¬ isNL x = true := List.any_eq_false.mp h
  have hmap : w.map cr2lf = w :=
    (List.map_congr_left (g := id) fun a ha => if_neg fun e : a = 0x0D => hall a ha (by rw [e]; rfl)).trans
      (List.map_id w)
  unfold nlSplit
  rw [hmap, splitOnByte_of_not_mem _ _ fun hm => hall _ hm (by decide)]
  cases w <;> rfl

theorem nlSplit_append_NL (hd : Bytes) (b : Byte) (w2 : Bytes) (hh : hd.any isNL = false)
    (hb : isNL b = true) :
    nlSplit (hd ++ b :: w2) = (if hd.isEmpty then [] else [hd]) ++ nlSplit w2 := by
  have h1 := nlSplit_noNL hd hh
  unfold nlSplit at h1 ⊢
  have : cr2lf b = 0x0A := by
    rcases (isNL_iff b).mp hb with rfl | rfl <;> decide
  simp only [List.map_append, List.map_cons, this, splitOnByte_append_sep, List.filter_append, h1]

theorem nlSplit_cons_NL (b : Byte) (w : Bytes) (hb : isNL b = true) : nlSplit (b :: w) = nlSplit w :=
  nlSplit_append_NL [] b w rfl hb

theorem nlSplit_dropWhile : ∀ w : Bytes, nlSplit (w.dropWhile isNL) = nlSplit w
  | [] => rfl
  | b :: w => by
    rw [List.dropWhile_cons]
    split
    · rename_i hb
      rw [nlSplit_dropWhile w, nlSplit_cons_NL b w hb]
    · rfl

theorem span_NL (w : Bytes) (h : w.any isNL = true) : ∃ b w2, isNL b = true ∧
    w.dropWhile (fun b => !isNL b) = b :: w2 ∧ (w.takeWhile (fun b => !isNL b)).any isNL = false := by
  have hhd : (w.takeWhile (fun b => !isNL b)).any isNL = false := by
    rw [List.any_eq_false]
    intro x hx
    simpa using List.all_eq_true.mp List.all_takeWhile x hx
  cases htl : w.dropWhile (fun b => !isNL b) with
  | nil =>
    have hw : w = w.takeWhile (fun b => !isNL b) ++ w.dropWhile (fun b => !isNL b) :=
      List.takeWhile_append_dropWhile.symm
    rw [hw, List.any_append, hhd, htl] at h
    cases h
  | cons b w2 =>
    have := List.head?_dropWhile_not (fun b => !isNL b) w
    rw [htl] at this
    exact ⟨b, w2, by simpa using this, rfl, hhd⟩

/-- Case analysis of the newline pass: out of fuel; no word left; a word `hd ++ b :: w2` broken at its
    first CR/LF `b`; a word without CR/LF. -/
theorem expandNewlines_cases (P : Nat → List Bytes → List Bytes → Prop)
    (h0 : ∀ ws, P 0 ws ws) (hnil : ∀ fuel, P (fuel + 1) [] [])
    (hnl : ∀ fuel hd b w2 rest r, hd.any isNL = false → isNL b = true →
      P fuel ((b :: w2).dropWhile isNL :: rest) r → P (fuel + 1) ((hd ++ b :: w2) :: rest) (hd :: [] :: r))
    (hplain : ∀ fuel w rest r, w.any isNL = false → P fuel rest r → P (fuel + 1) (w :: rest) (w :: r)) :
    ∀ fuel ws, P fuel ws (expandNewlines fuel ws)
  | 0, ws => h0 ws
  | fuel + 1, [] => hnil fuel
  | fuel + 1, w :: rest => by
    have ih := expandNewlines_cases P h0 hnil hnl hplain fuel
    rw [expandNewlines]
    by_cases hw : w.any isNL = true
    · rw [if_pos hw]
      obtain ⟨b, w2, hb, hd, ht⟩ := span_NL w hw
      have := hnl fuel _ b w2 rest _ ht hb (ih _)
      rwa [← hd, List.takeWhile_append_dropWhile] at this
    · rw [if_neg hw]
      exact hplain fuel w rest _ (Bool.not_eq_true _ ▸ hw) (ih rest)

theorem expandNewlines_filter (fuel : Nat) (ws : List Bytes) (h : wsum ws ≤ fuel) :
    (expandNewlines fuel ws).filter (fun x => !x.isEmpty) = ws.flatMap nlSplit := by
  refine expandNewlines_cases
    (fun fuel ws r => wsum ws ≤ fuel → r.filter (fun x => !x.isEmpty) = ws.flatMap nlSplit) ?_ ?_ ?_ ?_ fuel ws h
  · intro ws h
    cases ws with
    | nil => rfl
    | cons w ws => rw [wsum_cons] at h; omega
  · intro _ _; rfl
  · intro fuel hd b w2 rest r hh hb ih h
    have hdl : ((b :: w2).dropWhile isNL).length ≤ w2.length := by
      rw [List.dropWhile_cons_of_pos hb]
      exact (List.dropWhile_sublist _).length_le
    rw [wsum_cons, List.length_append, List.length_cons] at h
    rw [List.filter_cons, List.filter_cons_of_neg (by simp), ih (by rw [wsum_cons]; omega), List.flatMap_cons,
      List.flatMap_cons, nlSplit_dropWhile, nlSplit_cons_NL b w2 hb, nlSplit_append_NL _ b w2 hh hb,
      List.append_assoc]
    cases hd <;> rfl
  · intro fuel w rest r hnl ih h
    rw [wsum_cons] at h
    rw [List.filter_cons, ih (by omega), List.flatMap_cons, nlSplit_noNL w hnl]
    cases w <;> rfl

theorem valid_NL_run (a : Bytes) (h : a.all isNL = true) : Valid a := by
  apply valid_ascii
  rw [List.all_eq_true] at h ⊢
  intro x hx
  rcases (isNL_iff x).mp (h x hx) with rfl | rfl <;> decide

theorem expandNewlines_good (fuel : Nat) (ws : List Bytes) (h : ∀ w ∈ ws, sepFree w = true ∧ Valid w) :
    ∀ wd ∈ expandNewlines fuel ws, sepFree wd = true ∧ Valid wd := by
  refine expandNewlines_cases
    (fun _ ws r => (∀ w ∈ ws, sepFree w = true ∧ Valid w) → ∀ wd ∈ r, sepFree wd = true ∧ Valid wd)
    ?_ ?_ ?_ ?_ fuel ws h
  · exact fun _ h => h
  · exact fun _ _ _ h => nomatch h
  · intro fuel hd b w2 rest r _ hb ih h
    obtain ⟨⟨hsf, hv⟩, hrest⟩ := List.forall_mem_cons.mp h
    have hblt : b < 0x80 := by rcases (isNL_iff b).mp hb with rfl | rfl <;> decide
    have hv2 := hv.split_lead (Or.inr ⟨b, w2, rfl, Or.inl hblt⟩)
    have hsplit : (b :: w2).takeWhile isNL ++ (b :: w2).dropWhile isNL = b :: w2 :=
      List.takeWhile_append_dropWhile
    have htail : sepFree ((b :: w2).dropWhile isNL) = true ∧ Valid ((b :: w2).dropWhile isNL) :=
      ⟨sepFree_append_right ((b :: w2).takeWhile isNL) _ (by rw [hsplit]; exact sepFree_append_right _ _ hsf),
        (valid_NL_run _ List.all_takeWhile).drop_prefix _ (by rw [hsplit]; exact hv2.2)⟩
    exact List.forall_mem_cons.mpr ⟨⟨sepFree_append_left _ _ hsf, hv2.1⟩,
      List.forall_mem_cons.mpr ⟨⟨rfl, Valid.nil⟩, ih (List.forall_mem_cons.mpr ⟨htail, hrest⟩)⟩⟩
  · intro fuel w rest r _ ih h
    obtain ⟨hw, hrest⟩ := List.forall_mem_cons.mp h
    exact List.forall_mem_cons.mpr ⟨hw, ih hrest⟩

theorem mem_expandNewlines (fuel : Nat) (ws : List Bytes) :
    ∀ wd ∈ expandNewlines fuel ws, ∀ b ∈ wd, ∃ w' ∈ ws, b ∈ w' := by
  refine expandNewlines_cases (fun _ ws r => ∀ wd ∈ r, ∀ b ∈ wd, ∃ w' ∈ ws, b ∈ w') ?_ ?_ ?_ ?_ fuel ws
  · exact fun ws wd hwd b hb => ⟨wd, hwd, hb⟩
  · exact fun _ _ h => nomatch h
  · intro fuel hd c w2 rest r _ _ ih wd hwd b hb
    rcases List.mem_cons.mp hwd with rfl | hwd
    · exact ⟨_, List.mem_cons_self, List.mem_append_left _ hb⟩
    rcases List.mem_cons.mp hwd with rfl | hwd
    · cases hb
    obtain ⟨w', hw', hbw⟩ := ih wd hwd b hb
    rcases List.mem_cons.mp hw' with rfl | hw'
    · exact ⟨_, List.mem_cons_self, List.mem_append_right _ ((List.dropWhile_sublist _).subset hbw)⟩
    · exact ⟨w', List.mem_cons_of_mem _ hw', hbw⟩
  · intro fuel w rest r _ ih wd hwd b hb
    rcases List.mem_cons.mp hwd with rfl | hwd
    · exact ⟨wd, List.mem_cons_self, hb⟩
    · obtain ⟨w', hw', hbw⟩ := ih wd hwd b hb
      exact ⟨w', List.mem_cons_of_mem _ hw', hbw⟩

end Girc.Proofs.SplitNL

namespace Girc.Proofs.SplitWords
open Girc Girc.Model Girc.Spec Girc.Proofs.Utf8 Girc.Proofs.RoundtripUtf8 Girc.Proofs.SplitUtf8
open Girc.Proofs.SplitSep Girc.Proofs.SplitTrim Girc.Proofs.SplitNL

theorem mem_splitMessage {isURL : Bytes → Bool} {t : Bytes} {w : Nat} {p : Bytes} :
    p ∈ splitMessage isURL t w ↔
      ∃ l ∈ splitLoop isURL w (expandNewlines ((toValidUTF8 [0x3F] t).length + 1)
          (splitWords (trimSpace (toValidUTF8 [0x3F] t)))) {} [[]], l ≠ [] ∧ toValidUTF8 [0x3F] l = p := by
  unfold splitMessage
  simp only [List.mem_map, List.mem_filter, Bool.not_eq_true', List.isEmpty_eq_false_iff, and_assoc]

theorem words_plain (t : Bytes) (hp : plainText t = true) (fuel : Nat) :
    ∀ wd ∈ expandNewlines fuel (splitWords (trimSpace (toValidUTF8 [0x3F] t))), hasCodeByte wd = false := by
  intro wd hwd
  rw [hasCodeByte, List.any_eq_false]
  intro b hb hc
  obtain ⟨w', hw', hbw⟩ := mem_expandNewlines _ _ wd hwd b hb
  rcases mem_toValidUTF8 _ _ _ (mem_trimSpace _ _ (mem_splitWords _ w' hw' b hbw)) with hm | rfl
  · have : hasCodeByte t = true := List.any_eq_true.mpr ⟨b, hm, hc⟩
    rw [plainText, this] at hp
    cases hp
  · revert hc; decide

theorem words_good (t : Bytes) (fuel : Nat) :
    ∀ wd ∈ expandNewlines fuel (splitWords (trimSpace (toValidUTF8 [0x3F] t))), sepFree wd = true ∧ Valid wd :=
  expandNewlines_good fuel _ fun w hw =>
    splitWords_good _ (valid_trimSpace _ (valid_toValidUTF8 _ (by decide) t)) w hw

/-- The fuel `splitMessage` gives the newline pass suffices: its non-empty words are the words of the text. -/
theorem words_filter (t : Bytes) :
    (expandNewlines ((toValidUTF8 [0x3F] t).length + 1) (splitWords (trimSpace (toValidUTF8 [0x3F] t)))).filter
      (fun x => !x.isEmpty) = wordsOf t := by
  apply expandNewlines_filter
  have h1 := splitWords_sum (trimSpace (toValidUTF8 [0x3F] t))
  have h2 := length_trimSpace_le (toValidUTF8 [0x3F] t)
  omega

end Girc.Proofs.SplitWords
