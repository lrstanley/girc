import Girc.Proofs.ParseLemmas
import Girc.Proofs.GoOps
import Girc.Proofs.ParseSections
/-
  C02 totality. `goTop`, `goSrc`, `goTail` are `parseEventGo` cut in three at its `@tags ` and `:source `
  sections: `parseEventGo raw0` and `goTop raw0` are the same term up to unfolding, so `goTop_eq` is
  `parseEventGo raw = .ok (parseEvent raw)`. Each part is proved equal to its part of `parseEvent`.
-/
namespace Girc.Proofs.ParseTotal
open Girc Girc.Model Girc.Proofs.ParseLemmas Girc.Proofs.BytesLemmas Girc.Proofs.ParseSections
open Girc.Proofs.Trans (sliceI_ofNat atI_ofNat atI_cons_zero indexByteI_some indexByteI_none)

theorem sliceI_toEnd (s : Bytes) {lo : Int} (a : Nat) (ha : lo = a) (h : a ≤ s.length) :
    sliceI s lo s.length = .ok (s.drop a) :=
  Trans.sliceI_toEnd s a ha h

theorem findTrailerAux_cons (x : Byte) (xs : Bytes) (p : Bool) (pos : Nat) :
    findTrailerAux (x :: xs) p pos =
      if (x = COLON && p) then some pos else findTrailerAux xs (x = SP) (pos + 1) := rfl

theorem findTrailerAux_none : ∀ (s : Bytes) (p : Bool) (pos : Nat), COLON ∉ s → findTrailerAux s p pos = none
  | [], _, _, _ => rfl
  | x :: xs, p, pos, h => by
    have hx : x ≠ COLON := fun e => h (e ▸ List.mem_cons_self)
    rw [findTrailerAux_cons, findTrailerAux_none xs _ _ fun hm => h (List.mem_cons_of_mem _ hm)]
    simp [hx]

/-- Up to the first ':' nothing is found; there the byte before it decides. -/
theorem findTrailerAux_append (r : Bytes) : ∀ (a : Bytes) (c : Byte) (pos : Nat), COLON ∉ a →
    findTrailerAux (a ++ COLON :: r) (c = SP) pos =
      if (c :: a)[a.length]? = some SP then some (pos + a.length)
      else findTrailerAux r false (pos + a.length + 1)
  | [], c, pos, _ => by
    simp [findTrailerAux_cons, show (COLON = SP) = False from by decide]
  | x :: a, c, pos, h => by
    have hx : x ≠ COLON := fun e => h (e ▸ List.mem_cons_self)
    rw [List.cons_append, findTrailerAux_cons,
      findTrailerAux_append r a x (pos + 1) fun hm => h (List.mem_cons_of_mem _ hm)]
    simp [hx, Nat.add_assoc, Nat.add_comm 1]

theorem findTrailerAux_bound : ∀ (s : Bytes) (p : Bool) (pos n : Nat), findTrailerAux s p pos = some n →
    pos ≤ n ∧ n < pos + s.length
  | [], _, _, _, h => by simp [findTrailerAux] at h
  | x :: xs, p, pos, n, h => by
    unfold findTrailerAux at h
    split at h
    · cases h; simp
    · have := findTrailerAux_bound xs _ _ _ h
      simp; omega

/-- The Go loop jumps from ':' to ':'; `findTrailerAux` walks byte by byte. `raw = pre ++ c :: s` with the
    search resuming at `s`, and `c` the byte in front of it. -/
theorem loop_eq (raw : Bytes) {ji : Int} (j : Nat) (hj : ji = j) :
    ∀ (fuel : Nat) {Ti : Int} (T : Nat) (pre : Bytes) (c : Byte) (s : Bytes), Ti = T → raw = pre ++ c :: s →
      pre.length + 1 = j + T → s.length < fuel →
      trailerLoopGo raw ji fuel Ti = .ok ((findTrailerAux s (c = SP) T).map Int.ofNat)
  | 0, _, _, _, _, _, _, _, _, h => by omega
  | fuel + 1, Ti, T, pre, c, s, hT, hraw, hlen, hf => by
    have hdrop : raw.drop (j + T) = s := by rw [hraw, ← hlen]; exact drop_append_cons rfl c s
    unfold trailerLoopGo
    simp only []
    rw [sliceI_toEnd raw (j + T) (by omega) (by rw [hraw, List.length_append, List.length_cons]; omega), hdrop]
    simp only [bind, Except.bind]
    by_cases hm : COLON ∈ s
    · obtain ⟨a, r, rfl, ha⟩ := List.eq_append_cons_of_mem hm
      have hc' : raw[pre.length + a.length]? = (c :: a)[a.length]? := by
        rw [hraw, List.getElem?_append_right (Nat.le_add_right _ _), Nat.add_sub_cancel_left,
          ← List.cons_append, List.getElem?_append_left (Nat.lt_succ_self _)]
      obtain ⟨c', hc⟩ : ∃ c', (c :: a)[a.length]? = some c' := ⟨_, List.getElem?_eq_getElem (Nat.lt_succ_self _)⟩
      rw [findTrailerAux_append r a c T ha, hc]
      rw [hc] at hc'
      simp only [indexByteI_some (indexOf_append_cons COLON r a ha)]
      rw [show (ji + Ti + (a.length : Int) - 1) = ((pre.length + a.length : Nat) : Int) by omega, atI_ofNat hc']
      by_cases hsp : c' = SP
      · simp [hsp, hT, pure, Except.pure]
      · rw [loop_eq raw j hj fuel (T + a.length + 1) (pre ++ c :: a) COLON r (by omega) (by simp [hraw])
          (by simp; omega) (by simp at hf; omega)]
        simp [hsp, show ¬ COLON = SP by decide]
    · simp only [indexByteI_none (indexOf_none COLON s hm), findTrailerAux_none s _ _ hm]; rfl

def goTail (tags : Option Tags) (source : Option Source) (raw : Bytes) (i : Int) :
    Except Fault (Option Event) := do
  let rest ← sliceI raw i raw.length
  let j := i + indexByteI rest SP
  if j < i then
    return some { tags, source, command := toUpperAscii rest, params := [] }
  let command := toUpperAscii (← sliceI raw i j)
  let j := j + 1
  match ← trailerLoopGo raw j (raw.length + 1) 0 with
  | none =>
    return some { tags, source, command, params := fieldsSp (← sliceI raw j raw.length) }
  | some off =>
    let i2 := j + off
    let mut params : List Bytes := []
    if i2 > j then
      params := fieldsSp (← sliceI raw j (i2 - 1))
    let last ← sliceI raw (i2 + 1) raw.length
    return some { tags, source, command, params := params ++ [last] }

def goSrc (tags : Option Tags) (raw : Bytes) : Except Fault (Option Event) := do
  let mut i : Int := 0
  let mut source : Option Source := none
  if raw ≠ [] then
    let c ← atI raw 0
    if c = COLON then
      i := indexByteI raw SP
      if i < 2 then return none
      source := some (parseSource (← sliceI raw 1 i))
      i := i + 1
  goTail tags source raw i

def goTop (raw0 : Bytes) : Except Fault (Option Event) := do
  let raw := trimCRLF raw0
  if raw.length < 2 then return none
  let c0 ← atI raw 0
  if c0 = AT then
    let i := indexByteI raw SP
    if i < 2 then return none
    let tags := some (parseTags (← sliceI raw 1 i))
    let raw ← sliceI raw (i + 1) raw.length
    goSrc tags raw
  else
    goSrc none raw


/-- What `parseEvent` does with the command and parameters, once tags and source are known. -/
def tailOf (tags : Option Tags) (source : Option Source) (rest : Bytes) : Option Event :=
  match indexOf SP rest with
  | none => some { tags, source, command := toUpperAscii rest, params := [] }
  | some k => some { tags, source, command := toUpperAscii (rest.take k), params := parseParams (rest.drop (k + 1)) }

theorem goTail_eq (tags : Option Tags) (source : Option Source) (raw : Bytes) {i : Int} (n : Nat)
    (hi : i = n) (hn : n ≤ raw.length) : goTail tags source raw i = .ok (tailOf tags source (raw.drop n)) := by
  subst hi
  unfold goTail tailOf
  rw [sliceI_toEnd raw n rfl hn]
  simp only [bind, Except.bind, pure, Except.pure]
  by_cases hm : SP ∈ raw.drop n
  · obtain ⟨a, r, hs, ha⟩ := List.eq_append_cons_of_mem hm
    have hraw : raw = (raw.take n ++ a) ++ SP :: r := by rw [List.append_assoc, ← hs, List.take_append_drop]
    have hpre : (raw.take n ++ a).length = n + a.length := by
      rw [List.length_append, List.length_take, Nat.min_eq_left hn]
    have hlen := congrArg List.length hraw
    rw [List.length_append, hpre, List.length_cons] at hlen
    have hr : raw.drop (n + a.length + 1) = r := by rw [hraw]; exact drop_append_cons hpre SP r
    simp only [hs, indexByteI_some (indexOf_append_cons SP r a ha), indexOf_append_cons SP r a ha, drop_append_cons rfl]
    rw [← hs, if_neg (by omega), sliceI_ofNat raw n (n + a.length) rfl (by omega) (by omega) (by omega),
      loop_eq raw (n + a.length + 1) (by omega) _ 0 _ SP r (by rfl) hraw (by omega) (by omega)]
    simp only [Nat.add_sub_cancel_left, decide_true]
    unfold parseParams findTrailer
    cases hf : findTrailerAux r true 0 with
    | none =>
      rw [Option.map_none, sliceI_toEnd raw (n + a.length + 1) (by omega) (by omega), hr]
    | some p =>
      have hp := (findTrailerAux_bound _ _ _ _ hf).2
      simp only [Option.map_some, Int.ofNat_eq_natCast]
      rw [sliceI_toEnd raw (n + a.length + 1 + (p + 1)) (by omega) (by omega), ← List.drop_drop, hr]
      by_cases hp0 : p > 0
      · rw [if_pos (by omega), if_pos hp0,
          sliceI_ofNat raw (n + a.length + 1) (n + a.length + 1 + (p - 1)) (by omega) (by omega) (by omega) (by omega),
          hr, Nat.add_sub_cancel_left]
      · rw [if_neg (by omega), if_neg hp0]
  · rw [indexByteI_none (indexOf_none SP _ hm), indexOf_none SP _ hm, if_pos (by omega)]

/-- The index Go computes for a leading `@tags ` / `:source ` section: either it returns nil or the index
    is a position from 2 on and the section and the rest are the two slices Go takes. -/
theorem cutSection_go (lead : Byte) (raw : Bytes) (h : raw.head? = some lead) :
    (indexByteI raw SP < 2 ∧ cutSection lead raw = none) ∨
    ∃ i : Nat, indexByteI raw SP = i ∧ 2 ≤ i ∧ i < raw.length ∧
      cutSection lead raw = some (some ((raw.drop 1).take (i - 1)), raw.drop (i + 1)) := by
  unfold cutSection
  rw [if_pos h]
  by_cases hm : SP ∈ raw
  · obtain ⟨a, r, rfl, ha⟩ := List.eq_append_cons_of_mem hm
    rw [indexByteI_some (indexOf_append_cons SP r a ha), indexOf_append_cons SP r a ha]
    by_cases h2 : a.length < 2
    · exact .inl ⟨by omega, if_pos h2⟩
    · exact .inr ⟨_, rfl, by omega, by simp, by rw [← List.drop_take]; exact if_neg h2⟩
  · rw [indexByteI_none (indexOf_none SP raw hm), indexOf_none SP raw hm]
    exact .inl ⟨by decide, rfl⟩

theorem goSrc_eq (tags : Option Tags) (raw : Bytes) : goSrc tags raw = .ok
    (match cutSection COLON raw with
     | none => none
     | some (srcRaw, rest) => tailOf tags (srcRaw.map parseSource) rest) := by
  unfold goSrc
  cases raw with
  | nil =>
    rw [if_neg (not_not_intro rfl)]
    exact goTail_eq tags none [] 0 (by rfl) (Nat.le_refl _)
  | cons x xs =>
    rw [if_pos (List.cons_ne_nil x xs), atI_cons_zero]
    simp only [bind, Except.bind, pure, Except.pure]
    by_cases hx : x = COLON
    · subst hx
      rw [if_pos rfl]
      rcases cutSection_go COLON (COLON :: xs) rfl with ⟨h1, h2⟩ | ⟨i, h1, hi2, hil, h2⟩
      · rw [if_pos h1, h2]
      · rw [h1, h2, if_neg (by omega), sliceI_ofNat _ 1 i (by rfl) rfl (by omega) (by omega)]
        simp only []
        rw [goTail_eq _ _ _ (i + 1) (by omega) (by omega)]
        rfl
    · rw [if_neg hx, goTail_eq _ _ _ 0 (by rfl) (Nat.zero_le _), cutSection_none COLON _ (by simp [hx])]
      rfl

/-- The index-faithful model (every Go slice/index expression checked) never faults, and computes
    exactly the list-functional parser. -/
theorem goTop_eq (raw0 : Bytes) : goTop raw0 = .ok (parseEvent raw0) := by
  unfold goTop parseEvent
  simp only []
  generalize trimCRLF raw0 = raw
  by_cases hlen : raw.length < 2
  · rw [if_pos hlen, if_pos hlen]; rfl
  · rw [if_neg hlen, if_neg hlen]
    cases raw with
    | nil => simp at hlen
    | cons x xs =>
      rw [atI_cons_zero]
      simp only [bind, Except.bind, pure, Except.pure]
      by_cases hx : x = AT
      · subst hx
        rw [if_pos rfl]
        rcases cutSection_go AT (AT :: xs) rfl with ⟨h1, h2⟩ | ⟨i, h1, hi2, hil, h2⟩
        · rw [if_pos h1, h2]
        · rw [h1, h2, if_neg (by omega), sliceI_ofNat _ 1 i (by rfl) rfl (by omega) (by omega),
            sliceI_toEnd _ (i + 1) (by omega) (by omega)]
          exact goSrc_eq _ _
      · rw [if_neg hx, goSrc_eq, cutSection_none AT _ (by simp [hx])]
        rfl

end Girc.Proofs.ParseTotal
