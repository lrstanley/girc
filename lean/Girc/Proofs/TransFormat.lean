import Girc.Proofs.TransBase
import Girc.Model.Names
import Girc.Proofs.Glob
import Girc.Model.Phase4Helpers
import Girc.Model.Split
/-
  Translator equivalence, format.go: ToRFC1459, IsValidNick, IsValidUser, IsValidChannel, Glob and `sliceInsert`
  (`Fmt`, `TrimFmt`, `StripRaw` are in TransFmt.lean).

  `sliceInsert` is tied to the one-line model `Model.sliceInsert` for EVERY content of the spare capacity of `input`
  (`input_spare_`: the elements between len and cap, TRANSLATOR_NOTES §2.16) — i.e. both for the in-place branch
  (`total <= cap(input)`) and for the allocating one. The last part is the newline pass of `splitMessage`, one
  `sliceInsert` per step (`expandNewlines_step`).
-/
namespace Girc.Proofs.Trans
open Girc Girc.Model Girc.Go Girc.Gen

/-- The loop writes into `out` in place; the length, which bounds the loop, stays what it was. -/
theorem ToRFC1459_loop1_eq (input : Bytes) :
    Fn.ToRFC1459_loop1 (fuelTo 0 (len input)) input 0 = .ok (.done (fold input)) := by
  refine forIdx (fun fuel (s : { s : Bytes // s.length = input.length }) i => Fn.ToRFC1459_loop1 fuel s.1 i)
    (fun n s => .done (s.1.take n ++ (s.1.drop n).map fold1)) input.length ?_ ?_ _ 0 ⟨input, rfl⟩ (Nat.zero_le _)
    (fuelTo_gt 0 _)
  · rintro fuel ⟨s, hs⟩
    simp only [gosem, ← hs, Fn.ToRFC1459_loop1, List.take_length, List.drop_length, List.map_nil, List.append_nil]
  · rintro fuel n ⟨s, hs⟩ hlt ih
    have hn : n < s.length := hs ▸ hlt
    have hx : s[n]? = some s[n] := List.getElem?_eq_getElem hn
    have hset : ∀ v, (s.set n v).take (n + 1) ++ ((s.set n v).drop (n + 1)).map fold1 =
        s.take n ++ v :: (s.drop (n + 1)).map fold1 := fun v => by
      rw [take_succ_set s n v hn, drop_succ_set, List.append_assoc, List.singleton_append]
    simp only [gosem, Fn.ToRFC1459_loop1, decide_lt_len hn, atI_ofNat hx, setI_ofNat _ hn, drop_cons_of_getElem? hx,
      List.map_cons, fold1]
    by_cases hc : (decide (s[n] ≥ 65) && decide (s[n] ≤ 94)) = true
    · simp only [hc, if_true]
      exact (ih ⟨s.set n (s[n] + 32), by rw [List.length_set, hs]⟩).trans (by rw [hset])
    · simp only [hc, if_false, Bool.false_eq_true]
      exact (ih ⟨s, hs⟩).trans (by rw [← hset s[n], List.set_getElem_self])

theorem ToRFC1459_eq (input : Bytes) : Fn.ToRFC1459 input = .ok (fold input) := by
  simp only [gosem, Fn.ToRFC1459, ToRFC1459_loop1_eq]

theorem nickRest_cond (c : UInt8) :
    ((decide (c < 0x41) || decide (c > 0x7D)) && (decide (c < 0x30) || decide (c > 0x39)) && (c != 0x2D)) = !nickRest c :=
  (Bool.not_not _).symm

theorem nickFirst_cond (c : UInt8) : ((decide (c < 0x41) || decide (c > 0x7D)) && (c != 0x3F)) = !nickFirst c :=
  (Bool.not_not _).symm

theorem IsValidNick_loop1_eq (c : Byte) (r : Bytes) :
    Fn.IsValidNick_loop1 (c :: r) (fuelTo 1 (len (c :: r))) 1 = .ok (if r.all nickRest then .done () else .ret false) :=
  forAll (c :: r) (Fn.IsValidNick_loop1 (c :: r)) nickRest false
    (fun fuel => by simp only [gosem, Fn.IsValidNick_loop1])
    (fun fuel n x hn hx => by
      simp only [gosem, Fn.IsValidNick_loop1, decide_lt_len hn, atI_ofNat hx, nickRest_cond])
    1 (Nat.le_add_left 1 _)

theorem IsValidNick_eq (nick : Bytes) : Fn.IsValidNick nick = .ok (isValidNick nick) := by
  unfold Fn.IsValidNick
  cases nick with
  | nil => rfl
  | cons c r =>
    simp only [gosem, atI_cons_zero, IsValidNick_loop1_eq, nickFirst_cond, isValidNick]
    cases nickFirst c <;> cases r.all nickRest <;> rfl

theorem userRest_cond (c : UInt8) :
    ((decide (c < 0x41) || decide (c > 0x7D)) && (decide (c < 0x30) || decide (c > 0x39)) && (c != 0x2D) && (c != 0x2E)) =
      !userRest c :=
  (Bool.not_not _).symm

theorem userFirst_cond (c : UInt8) :
    ((decide (c < 0x41) || decide (c > 0x5A)) && (decide (c < 0x61) || decide (c > 0x7A)) &&
      (decide (c < 0x30) || decide (c > 0x39))) = !userFirst c :=
  (Bool.not_not _).symm

theorem IsValidUser_loop1_eq (c : Byte) (r : Bytes) :
    Fn.IsValidUser_loop1 (c :: r) (fuelTo 1 (len (c :: r))) 1 = .ok (if r.all userRest then .done () else .ret false) :=
  forAll (c :: r) (Fn.IsValidUser_loop1 (c :: r)) userRest false
    (fun fuel => by simp only [gosem, Fn.IsValidUser_loop1])
    (fun fuel n x hn hx => by
      simp only [gosem, Fn.IsValidUser_loop1, decide_lt_len hn, atI_ofNat hx, userRest_cond])
    1 (Nat.le_add_left 1 _)

theorem IsValidUser_eq (name : Bytes) : Fn.IsValidUser name = .ok (isValidUser name) := by
  unfold Fn.IsValidUser
  cases name with
  | nil => rfl
  | cons c r =>
    by_cases hc : c = 0x7E
    · subst hc
      cases r with
      | nil => rfl
      | cons d r' =>
        have hs : sliceI (0x7E :: d :: r') 1 (len (0x7E :: d :: r')) = .ok (d :: r') :=
          sliceI_toEnd (0x7E :: d :: r') 1 rfl (by simp only [List.length_cons]; omega)
        have hlen : decide (len (0x7E :: d :: r') < 2) = false :=
          decide_eq_false (by simp only [len, List.length_cons]; omega)
        simp only [gosem, atI_cons_zero, hs, hlen, IsValidUser_loop1_eq, userFirst_cond, isValidUser, isValidUserBody]
        cases userFirst d <;> cases r'.all userRest <;> rfl
    · simp only [gosem, atI_cons_zero, IsValidUser_loop1_eq, userFirst_cond, isValidUser, isValidUserBody, hc,
        beq_false_of_ne hc]
      cases userFirst c <;> cases r.all userRest <;> rfl

theorem chanId_cond (c : UInt8) :
    ((decide (c < 0x30) || decide (c > 0x39)) && (decide (c < 0x41) || decide (c > 0x5A))) = !chanIdByte c :=
  (Bool.not_not _).symm

theorem chanBad_cond (c : UInt8) : (indexByteI [0x00, 0x07, 0x0D, 0x0A, 0x20, 0x2C, 0x3A] c != -1) = chanBad c := by
  simp only [indexByteI_ne, chanBad, List.contains_cons, List.contains_nil, Bool.or_false, Bool.beq_eq_decide_eq,
    Bool.or_assoc]

theorem chanPrefix_cond (c : UInt8) : (indexByteI [0x21, 0x23, 0x26, 0x2A, 0x7E, 0x2B] c == -1) = !chanPrefix c := by
  rw [indexByteI_beq]
  simp only [chanPrefix, List.contains_cons, List.contains_nil, Bool.or_false, Bool.beq_eq_decide_eq, Bool.or_assoc]

/-- The channel-id check of a `!` channel: positions 1 to 5. -/
theorem IsValidChannel_loop1_eq (c : Byte) (r : Bytes) (h5 : 5 ≤ r.length) :
    Fn.IsValidChannel_loop1 (c :: r) (fuelTo 1 6) 1 = .ok (if (r.take 5).all chanIdByte then .done () else .ret false) := by
  have h6 : ((c :: r).take 6).length = 6 := by rw [List.length_take, List.length_cons]; omega
  have := forAll ((c :: r).take 6) (Fn.IsValidChannel_loop1 (c :: r)) chanIdByte false
    (fun fuel => by
      rw [h6]
      simp only [gosem, Fn.IsValidChannel_loop1, show decide (((6 : Nat) : Int) < 6) = false from rfl])
    (fun fuel n x hn hx => by
      rw [h6] at hn
      rw [List.getElem?_take, if_pos hn] at hx
      simp only [gosem, Fn.IsValidChannel_loop1, show decide ((n : Int) < 6) = true from decide_eq_true (by omega),
        atI_ofNat hx, chanId_cond])
    1 (by omega)
  rwa [len, h6] at this

theorem IsValidChannel_loop2_eq (c : Byte) (r : Bytes) :
    Fn.IsValidChannel_loop2 (c :: r) [0x00, 0x07, 0x0D, 0x0A, 0x20, 0x2C, 0x3A] (fuelTo 1 (len (c :: r))) 1 =
      .ok (if r.any chanBad then .ret false else .done ()) :=
  forAny (c :: r) (Fn.IsValidChannel_loop2 (c :: r) _) chanBad false
    (fun fuel => by simp only [gosem, Fn.IsValidChannel_loop2])
    (fun fuel n x hn hx => by
      simp only [gosem, Fn.IsValidChannel_loop2, decide_lt_len hn, atI_ofNat hx, chanBad_cond])
    1 (Nat.le_add_left 1 _)
theorem IsValidChannel_eq (ch : Bytes) : Fn.IsValidChannel ch = .ok (isValidChannel ch) := by
  unfold Fn.IsValidChannel isValidChannel
  rw [show decide (len ch ≤ 1) = decide (ch.length ≤ 1) from decide_congr Int.ofNat_le,
    show decide (len ch > 50) = decide (ch.length > 50) from decide_congr Int.ofNat_lt]
  cases hlen : (decide (ch.length ≤ 1) || decide (ch.length > 50))
  · cases ch with
    | nil => simp at hlen
    | cons c r =>
      simp only [gosem, atI_cons_zero, IsValidChannel_loop2_eq, chanPrefix_cond,
        show decide (len (c :: r) < 7) = decide ((c :: r).length < 7) from decide_congr Int.ofNat_lt]
      by_cases h7 : (c :: r).length < 7
      · simp only [h7, decide_true, gosem, Bool.true_or, Bool.and_true]
        cases chanPrefix c <;> cases c == 0x21 <;> cases r.any chanBad <;> rfl
      · simp only [h7, decide_false, gosem, Bool.false_or,
          IsValidChannel_loop1_eq c r (by simp only [List.length_cons] at h7; omega)]
        cases chanPrefix c <;> cases c == 0x21 <;> cases (r.take 5).all chanIdByte <;> cases r.any chanBad <;> rfl
  · rfl

theorem hasSuffix_byte (s : Bytes) (b : Byte) : hasSuffix s [b] = decide (s.getLast? = some b) := by
  rw [hasSuffix, isSuffixOfB, List.reverse_singleton, ← hasPrefix, hasPrefix_byte, List.head?_reverse]

theorem findSub_bound {p s : Bytes} {i : Nat} (h : findSub p s = some i) : i + p.length ≤ s.length := by
  obtain ⟨a, b, rfl, rfl⟩ := Glob.findSub_some h
  simp only [List.length_append]; omega

/-- The middle pieces, positions `1 … last - 1` of `parts`. -/
theorem Glob_loop1_eq (parts : List Bytes) (last : Nat) (h1 : 1 ≤ last) (hl : last ≤ parts.length) (input : Bytes) :
    Fn.Glob_loop1 parts (last : Int) (fuelTo 1 (last : Int)) input 1 =
      .ok (match globMiddle ((parts.take last).drop 1) input with
           | none => .ret false
           | some rest => .done rest) :=
  forIdx (Fn.Glob_loop1 parts last)
    (fun n input => match globMiddle ((parts.take last).drop n) input with
      | none => .ret false
      | some rest => .done rest) last
    (fun fuel s => by
      simp only [Fn.Glob_loop1, gosem, Int.lt_irrefl, decide_false,
        List.drop_of_length_le (List.length_take_le last parts), globMiddle])
    (fun fuel n s hlt ih => by
      obtain ⟨p, hp⟩ : ∃ p, parts[n]? = some p := ⟨_, List.getElem?_eq_getElem (Nat.lt_of_lt_of_le hlt hl)⟩
      have hx : (parts.take last)[n]? = some p := by rw [List.getElem?_take, if_pos hlt, hp]
      rw [drop_cons_of_getElem? hx, globMiddle]
      simp only [Fn.Glob_loop1, gosem, decide_eq_true (Int.ofNat_lt.mpr hlt), containsSub, indexI, atL_ofNat hp]
      cases hf : findSub p s with
      | none => rfl
      | some j =>
        simp only [↓reduceIte, gosem, Option.isSome_some, ih, show sliceI s (↑j + len p) (len s) = .ok (s.drop (j + p.length)) from
          sliceI_toEnd s _ (Int.natCast_add _ _).symm (findSub_bound hf)])
    _ 1 input h1 (fuelTo_gt 1 last)

theorem Glob_eq (input pat : Bytes) : Fn.Glob input pat = .ok (glob input pat) := by
  unfold Fn.Glob glob
  simp only [gosem, show Fn.globChar = [star] from rfl, split_one, hasPrefix_byte, hasSuffix_byte, Bool.beq_eq_decide_eq (a := pat),
    decide_eq_true_eq]
  by_cases hp0 : pat = []
  · simp only [hp0, if_true, Bool.beq_eq_decide_eq]
  by_cases hp1 : pat = [star]
  · simp only [hp1, if_true, if_neg (List.cons_ne_nil _ _)]
  simp only [if_neg hp0, if_neg hp1]
  cases hsp : splitOnByte star pat with
  | nil => exact absurd hsp (BytesLemmas.splitOnByte_ne_nil star pat)
  | cons first more =>
    cases more with
    | nil => simp only [↓reduceIte, gosem, show (len [first] == 1) = true from rfl, Bool.beq_eq_decide_eq]
    | cons m ms =>
      have hlast : len (first :: m :: ms) - 1 = ((ms.length + 1 : Nat) : Int) := by
        simp only [len, List.length_cons]; omega
      have htd : ((first :: m :: ms).take (ms.length + 1)).drop 1 = (m :: ms).dropLast := by
        rw [List.take_succ_cons, List.drop_succ_cons, List.drop_zero, List.dropLast_eq_take, List.length_cons, Nat.add_sub_cancel]
      simp only [↓reduceIte, gosem, hlast, show (len (first :: m :: ms) == 1) = false from beq_false_of_ne (by simp only [len, List.length_cons]; omega),
        show atL (first :: m :: ms) 0 = .ok first from atL_ofNat (n := 0) rfl,
        show atL (first :: m :: ms) ((ms.length + 1 : Nat) : Int) = .ok ((m :: ms).getLastD []) from
          atL_ofNat (by rw [List.getLastD_eq_getLast?, List.getLast?_eq_getElem?]; simp),
        Glob_loop1_eq (first :: m :: ms) (ms.length + 1) (Nat.le_add_left 1 _) (Nat.le_succ _), htd, hasPrefix, hasSuffix]
      cases hc : !decide (pat.head? = some star) && !first.isPrefixOf input
      · -- the slice `input[len(first):]` is in range: `first` is a prefix of `input`, or empty after a leading `*`
        have hfl : first.length ≤ input.length := by
          cases pat with
          | nil => exact absurd rfl hp0
          | cons x xs =>
            by_cases hx : x = star
            · rw [hx, BytesLemmas.splitOnByte_cons_sep] at hsp
              rw [← (List.cons.inj hsp).1]
              exact Nat.zero_le _
            · rw [List.head?_cons, decide_eq_false (fun h => hx (Option.some.inj h)), Bool.not_false, Bool.true_and,
                Bool.not_eq_false'] at hc
              exact (List.isPrefixOf_iff_prefix.mp hc).length_le
        simp only [↓reduceIte, gosem, show sliceI input (len first) (len input) = .ok (input.drop first.length) from
          sliceI_toEnd input _ rfl hfl]
        cases globMiddle (m :: ms).dropLast (input.drop first.length) <;> rfl
      · rfl

/-- `copy(o[k:], src)` where `o[k:]` starts with a piece as long as `src`: that piece is replaced. -/
theorem take_copyA_drop {α : Type} (A B C src : List α) (k : Nat) (hk : k = A.length) (h : B.length = src.length) :
    (A ++ B ++ C).take k ++ copyA ((A ++ B ++ C).drop k) src = A ++ src ++ C := by
  subst hk
  rw [List.append_assoc, List.take_left, List.drop_left, copyA_append B C src h, List.append_assoc]

theorem take_append_mid_append_drop {α : Type} (o : List α) (a b : Nat) :
    o = o.take a ++ (o.drop a).take b ++ o.drop (a + b) := by
  rw [List.append_assoc, ← List.drop_drop, List.take_append_drop, List.take_append_drop]

theorem reslice_at (o : List Bytes) (k : Nat) {ki : Int} (hk : ki = k) (h : k ≤ o.length) :
    sliceL o 0 ki = .ok (o.take k) ∧ sliceL o ki (len o) = .ok (o.drop k) :=
  ⟨sliceL_fromZero o k hk h, sliceL_toEnd o k hk h⟩

theorem sliceCapA_tail (input spare : List Bytes) (n : Nat) (hn : n ≤ input.length) :
    sliceCapA input spare (n : Int) (len input) = .ok (input.drop n) :=
  (sliceCapA_ofNat input spare n input.length rfl rfl hn (Nat.le_add_right _ _)).trans (by
    rw [List.drop_append_of_le_length hn, List.take_append_of_le_length (by rw [List.length_drop]; exact Nat.le_refl _),
      List.take_of_length_le (by rw [List.length_drop]; exact Nat.le_refl _)])

theorem sliceInsert_casts (input spare v : List Bytes) (n : Nat) :
    len input + len v = ((input.length + v.length : Nat) : Int) ∧
      (n : Int) + len v = ((n + v.length : Nat) : Int) ∧
      len input + len spare = ((input.length + spare.length : Nat) : Int) :=
  ⟨(Int.natCast_add _ _).symm, (Int.natCast_add _ _).symm, (Int.natCast_add _ _).symm⟩

theorem sliceInsert_ok (spare input v : List Bytes) (n : Nat) (hn : n ≤ input.length) :
    Fn.sliceInsert spare input n v = .ok (input.take n ++ v ++ input.drop n) := by
  have hlA : n = (input.take n).length := (List.length_take_of_le hn).symm
  by_cases hc : input.length + v.length ≤ input.length + spare.length
  · -- the tail is shifted inside the backing array, then `v` is copied into the gap
    obtain ⟨o0, ho0⟩ : ∃ o0, (input ++ spare).take (input.length + v.length) = o0 := ⟨_, rfl⟩
    have hl0 : o0.length = input.length + v.length := by
      rw [← ho0, List.length_take, List.length_append]; omega
    have ht0 : o0.take n = input.take n := by
      rw [← ho0, List.take_take, Nat.min_eq_left (by omega), List.take_append_of_le_length hn]
    have h0 := take_append_mid_append_drop o0 n v.length
    rw [ht0] at h0
    generalize hX : (o0.drop n).take v.length = X at h0
    have hlX : X.length = v.length := by rw [← hX, List.length_take, List.length_drop]; omega
    have hlY : (o0.drop (n + v.length)).length = (input.drop n).length := by
      rw [List.length_drop, List.length_drop]; omega
    have e1 : o0.take (n + v.length) ++ copyA (o0.drop (n + v.length)) (input.drop n) =
        input.take n ++ X ++ input.drop n := by
      have := take_copyA_drop (input.take n ++ X) (o0.drop (n + v.length)) [] (input.drop n) (n + v.length)
        (by rw [List.length_append, hlX, ← hlA]) hlY
      rwa [List.append_nil, List.append_nil, ← h0] at this
    obtain ⟨a1, b1⟩ := reslice_at o0 (n + v.length) rfl (by omega)
    obtain ⟨a2, b2⟩ := reslice_at (input.take n ++ X ++ input.drop n) n rfl
      (by rw [List.length_append, List.length_append, ← hlA]; omega)
    have s0 : sliceCapA input spare 0 ((input.length + v.length : Nat) : Int) = .ok o0 :=
      (sliceCapA_ofNat input spare (lo := 0) 0 _ rfl rfl (Nat.zero_le _) hc).trans (by
        rw [List.drop_zero, Nat.sub_zero, ho0])
    simp only [Fn.sliceInsert, bind, Except.bind, pure, Except.pure, (sliceInsert_casts input spare v n).1,
      (sliceInsert_casts input spare v n).2.1, (sliceInsert_casts input spare v n).2.2, s0, a1, b1,
      sliceCapA_tail input spare n hn, e1, a2, b2, take_copyA_drop (input.take n) X (input.drop n) v n hlA hlX,
      decide_eq_true (Int.ofNat_le.mpr hc), if_true]
  · -- a fresh slice is filled piece by piece
    obtain ⟨o0, ho0⟩ : ∃ o0, List.replicate (input.length + v.length) ([] : Bytes) = o0 := ⟨_, rfl⟩
    have hl0 : o0.length = input.length + v.length := by rw [← ho0, List.length_replicate]
    have h0 := take_append_mid_append_drop o0 n v.length
    generalize hA : o0.take n = A at h0
    generalize hX : (o0.drop n).take v.length = X at h0
    generalize hY : o0.drop (n + v.length) = Y at h0
    have hlA' : A.length = (input.take n).length := by rw [← hA, List.length_take, List.length_take]; omega
    have hlX : X.length = v.length := by rw [← hX, List.length_take, List.length_drop]; omega
    have hlY : Y.length = (input.drop n).length := by rw [← hY, List.length_drop, List.length_drop]; omega
    have e1 : copyA o0 (input.take n) = input.take n ++ X ++ Y := by
      rw [h0, List.append_assoc, copyA_append A (X ++ Y) (input.take n) hlA', ← List.append_assoc]
    obtain ⟨a2, b2⟩ := reslice_at (input.take n ++ X ++ Y) n rfl
      (by rw [List.length_append, List.length_append, ← hlA]; omega)
    obtain ⟨a3, b3⟩ := reslice_at (input.take n ++ v ++ Y) (n + v.length) rfl
      (by rw [List.length_append, List.length_append, ← hlA]; omega)
    have e3 := take_copyA_drop (input.take n ++ v) Y [] (input.drop n) (n + v.length)
      (by rw [List.length_append, ← hlA]) hlY
    rw [List.append_nil, List.append_nil] at e3
    have s0 : sliceCapA input spare 0 (n : Int) = .ok (input.take n) :=
      (sliceCapA_ofNat input spare (lo := 0) 0 n rfl rfl (Nat.zero_le _) (by omega)).trans (by
        rw [List.drop_zero, Nat.sub_zero, List.take_append_of_le_length hn])
    simp only [Fn.sliceInsert, bind, Except.bind, pure, Except.pure, (sliceInsert_casts input spare v n).1,
      (sliceInsert_casts input spare v n).2.1, (sliceInsert_casts input spare v n).2.2, makeA_ofNat, ho0, s0, e1, a2,
      b2,
      take_copyA_drop (input.take n) X Y v n hlA hlX, a3, b3, sliceCapA_tail input spare n hn, e3,
      decide_eq_false (fun h => hc (Int.ofNat_le.mp h)), Bool.false_eq_true, if_false]

theorem sliceInsert_eq (spare input : List Bytes) (i : Int) (v : List Bytes) :
    Fn.sliceInsert spare input i v = Model.sliceInsert input i v := by
  by_cases hi : 0 ≤ i ∧ i ≤ (input.length : Int)
  · obtain ⟨n, rfl⟩ := Int.eq_ofNat_of_zero_le hi.1
    rw [sliceInsert_ok spare input v n (Int.ofNat_le.mp hi.2), Model.sliceInsert, if_pos hi, Int.toNat_natCast]
  unfold Fn.sliceInsert Model.sliceInsert
  simp only [bind, Except.bind, pure, Except.pure, hi, if_false]
  by_cases hc : input.length + v.length ≤ input.length + spare.length
  · have c : decide (len input + len v ≤ len input + len spare) = true :=
      decide_eq_true (by simp only [len]; omega)
    simp only [c, if_true]
    simp only [len] at hi ⊢
    obtain ⟨o0, h0, l0⟩ := sliceCapA_ok input spare 0 ((input.length : Int) + (v.length : Int)) (by omega)
    rw [h0]; simp only []
    by_cases h2 : 0 ≤ i + (v.length : Int) ∧ i + (v.length : Int) ≤ (o0.length : Int)
    · obtain ⟨r1, hr1, _⟩ := sliceL_ok o0 0 (i + (v.length : Int)) ⟨by omega, h2.1, h2.2⟩
      obtain ⟨r2, hr2, _⟩ := sliceL_ok o0 (i + (v.length : Int)) (o0.length : Int) ⟨h2.1, h2.2, by omega⟩
      rw [hr1]; simp only []
      rw [hr2]; simp only []
      rw [sliceCapA_bad input spare i (input.length : Int) (by omega)]
    · rw [sliceL_bad o0 0 (i + (v.length : Int)) (by omega)]
  · have c : decide (len input + len v ≤ len input + len spare) = false :=
      decide_eq_false (by simp only [len]; omega)
    simp only [c, Bool.false_eq_true, if_false]
    simp only [len] at hi ⊢
    have et : (input.length : Int) + (v.length : Int) = ((input.length + v.length : Nat) : Int) := by simp
    rw [et, makeA_ofNat]; simp only []
    by_cases h1 : 0 ≤ i ∧ i ≤ ((input.length + spare.length : Nat) : Int)
    · obtain ⟨r0, hr0, _⟩ := sliceCapA_ok input spare 0 i ⟨by omega, h1.1, h1.2⟩
      rw [hr0]; simp only []
      have l1 := copyA_length (List.replicate (input.length + v.length) ([] : Bytes)) r0
      rw [List.length_replicate] at l1
      generalize copyA (List.replicate (input.length + v.length) ([] : Bytes)) r0 = o1 at l1 ⊢
      by_cases h2 : i ≤ (o1.length : Int)
      · obtain ⟨r1, hr1, lr1⟩ := sliceL_ok o1 0 i ⟨by omega, h1.1, h2⟩
        obtain ⟨r2, hr2, lr2⟩ := sliceL_ok o1 i (o1.length : Int) ⟨h1.1, h2, by omega⟩
        rw [hr1]; simp only []
        rw [hr2]; simp only []
        have l2 := copyA_length r2 v
        have hl : ((r1 ++ copyA r2 v).length : Int) = (o1.length : Int) := by
          rw [List.length_append, l2]; omega
        rw [sliceL_bad (r1 ++ copyA r2 v) 0 (i + (v.length : Int)) (by omega)]
      · rw [sliceL_bad o1 0 i (by omega)]
    · rw [sliceCapA_bad input spare 0 i (by omega)]

/-- The newline pass of `splitMessage` (`words[i] = word[:j]; words = sliceInsert(words, i+1, "", tail)`) has exactly
    the shape of one step of the model's `expandNewlines`: the word at position `i` becomes `head`, "" and `tail`. -/
theorem sliceInsert_newline_step (pre rest : List Bytes) (w head tail : Bytes) :
    Model.sliceInsert ((pre ++ w :: rest).set pre.length head) ((pre.length : Int) + 1) [[], tail] =
      .ok (pre ++ head :: [] :: tail :: rest) := by
  unfold Model.sliceInsert
  have hs : (pre ++ w :: rest).set pre.length head = pre ++ head :: rest := by
    rw [List.set_append_right _ _ (Nat.le_refl _)]
    simp
  have c : (0 : Int) ≤ (pre.length : Int) + 1 ∧ (pre.length : Int) + 1 ≤ ((pre ++ head :: rest).length : Int) := by
    simp only [List.length_append, List.length_cons]; omega
  have e : ((pre.length : Int) + 1).toNat = pre.length + 1 := by omega
  rw [hs]
  simp only [c, and_self, if_true, e]
  have h1 : (pre ++ head :: rest).take (pre.length + 1) = pre ++ [head] := by
    simp [List.take_append, List.take_of_length_le]
  have h2 : (pre ++ head :: rest).drop (pre.length + 1) = rest := by
    simp [List.drop_append]
  rw [h1, h2]
  simp

theorem expandNewlines_step (fuel : Nat) (w : Bytes) (rest : List Bytes) (h : w.any isNL = true) :
    expandNewlines (fuel + 1) (w :: rest) =
      w.takeWhile (fun b => !isNL b) :: [] ::
        expandNewlines fuel (((w.dropWhile (fun b => !isNL b)).dropWhile isNL) :: rest) := by
  simp only [expandNewlines, h, if_true]

end Girc.Proofs.Trans
