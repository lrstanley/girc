import Girc.Proofs.TransBase
import Girc.Model.Ctcp
import Girc.Model.Phase4Helpers
/-
  Translator equivalence, ctcp.go: EncodeCTCPRaw, EncodeCTCP, DecodeCTCP, (*CTCP).parseCMD (final steps that are short: under the tie
  theorems in Props/TieCtcp.lean).
-/
namespace Girc.Proofs.Trans
open Girc Girc.Model Girc.Go Girc.Gen

theorem EncodeCTCPRaw_eq (cmd text : Bytes) : Fn.EncodeCTCPRaw cmd text = .ok (encodeCTCPRaw cmd text) := by
  unfold Fn.EncodeCTCPRaw encodeCTCPRaw
  simp only [gosem, decide_len_pos, show strOfByte Fn.ctcpDelim = [ctcpDelim] from rfl, show strOfByte Fn.eventSpace = [SP] from rfl]
  cases cmd with
  | nil => rfl
  | cons c r =>
    cases text
    all_goals
      simp only [↓reduceIte, gosem, show (c :: r == []) = false from rfl, List.isEmpty_cons, List.length_nil, List.length_cons, Nat.lt_irrefl,
        Nat.succ_pos, gt_iff_lt, decide_true, decide_false, List.append_nil, List.cons_append, List.nil_append, List.append_assoc]

theorem ctcpTag_cond (c : UInt8) :
    ((decide (c < 0x41) || decide (c > 0x5A)) && (decide (c < 0x30) || decide (c > 0x39))) = !ctcpTagByte c :=
  (Bool.not_not _).symm

theorem DecodeCTCP_loop1_eq (s : Bytes) :
    Fn.DecodeCTCP_loop1 s (fuelTo 0 (len s)) 0 = .ok (if s.all ctcpTagByte then .done () else .ret none) :=
  forAll s (Fn.DecodeCTCP_loop1 s) ctcpTagByte none
    (fun fuel => by simp only [↓reduceIte, gosem, Fn.DecodeCTCP_loop1])
    (fun fuel n x hn hx => by simp only [↓reduceIte, gosem, Fn.DecodeCTCP_loop1, decide_lt_len hn, atI_ofNat hx, ctcpTag_cond])
    0 (Nat.zero_le _)

theorem DecodeCTCP_loop2_eq (s : Bytes) (k : Nat) (hk : k ≤ s.length) :
    Fn.DecodeCTCP_loop2 s (k : Int) (fuelTo 0 (k : Int)) 0 = .ok (if (s.take k).all ctcpTagByte then .done () else .ret none) := by
  have hl : (s.take k).length = k := by rw [List.length_take]; omega
  have := forAll (s.take k) (Fn.DecodeCTCP_loop2 s k) ctcpTagByte none
    (fun fuel => by simp only [↓reduceIte, gosem, hl, Fn.DecodeCTCP_loop2, Int.lt_irrefl, decide_false])
    (fun fuel n x hn hx => by
      rw [hl] at hn
      rw [List.getElem?_take, if_pos hn] at hx
      simp only [↓reduceIte, gosem, Fn.DecodeCTCP_loop2, decide_eq_true (Int.ofNat_lt.mpr hn), atI_ofNat hx, ctcpTag_cond])
    0 (Nat.zero_le _)
  rwa [len, hl] at this

theorem split3 (p : Bytes) (h : 3 ≤ p.length) : ∃ x mid z, p = x :: (mid ++ [z]) := by
  cases p with
  | nil => simp at h
  | cons x q =>
    have hq : q ≠ [] := by intro e; subst e; simp at h
    exact ⟨x, q.dropLast, q.getLast hq, by rw [List.dropLast_concat_getLast hq]⟩

theorem DecodeCTCP_eq (e : Event) : Fn.DecodeCTCP (some e) = .ok (decodeCTCP e) := by
  obtain ⟨tags, source, command, params⟩ := e
  unfold Fn.DecodeCTCP decodeCTCP
  simp only [↓reduceIte, gosem, Option.isNone_some]
  match params with
  | [] => rfl
  | [_] => rfl
  | a :: b :: c :: l =>
    simp only [↓reduceIte, gosem, show (len (a :: b :: c :: l) != 2) = true from bne_iff_ne.mpr (by simp only [len, List.length_cons]; omega)]
  | [a, p] =>
    have h1 : atL [a, p] 1 = .ok p := atL_ofNat (n := 1) rfl
    simp only [gosem, h1, show (len [a, p] != 2) = false from rfl, Bool.false_or,
      show decide (len p < 3) = decide (p.length < 3) from decide_congr Int.ofNat_lt,
      show Fn.PRIVMSG = PRIVMSG from rfl, show Fn.NOTICE = NOTICE from rfl, show Fn.ctcpDelim = ctcpDelim from rfl,
      show Fn.eventSpace = SP from rfl]
    by_cases h3 : p.length < 3
    · simp only [h3, decide_true, if_true]
    · simp only [h3, decide_false, Bool.false_eq_true, if_false]
      cases (command != PRIVMSG && command != NOTICE)
      · obtain ⟨x, mid, z, rfl⟩ := split3 p (by omega)
        have hl : len (x :: (mid ++ [z])) - 1 = ((mid.length + 1 : Nat) : Int) := by
          simp only [len, List.length_cons, List.length_append, List.length_nil]; omega
        have hz : atI (x :: (mid ++ [z])) ((mid.length + 1 : Nat) : Int) = .ok z := atI_ofNat (by simp)
        have hs : sliceI (x :: (mid ++ [z])) 1 ((mid.length + 1 : Nat) : Int) = .ok mid :=
          (sliceI_ofNat _ (lo := 1) 1 (mid.length + 1) rfl rfl (Nat.le_add_left _ _) (by simp)).trans (by simp)
        simp only [↓reduceIte, gosem, hl, atI_cons_zero, hz, hs, List.head?_cons, List.drop_succ_cons, List.drop_zero,
          show (x :: (mid ++ [z])).getLast? = some z by simp [List.getLast?_cons],
          show (mid ++ [z]).dropLast = mid by simp]
        cases hx : x == ctcpDelim <;> cases hzz : z == ctcpDelim <;>
          simp only [bne, hx, hzz, Option.some_beq_some, Bool.not_true, Bool.not_false, Bool.or_true, Bool.true_or, Bool.or_self,
            Bool.false_eq_true, if_true, if_false]
        cases hi : indexOf SP mid with
        | none =>
          simp only [↓reduceIte, gosem, indexByteI_none hi, show decide ((-1 : Int) < 0) = true from rfl, DecodeCTCP_loop1_eq]
          cases mid.all ctcpTagByte <;> rfl
        | some k =>
          have hk := BytesLemmas.indexOf_lt hi
          simp only [↓reduceIte, gosem, indexByteI_some hi, show decide ((k : Int) < 0) = false from decide_eq_false (by omega),
            DecodeCTCP_loop2_eq mid k (by omega), sliceI_fromZero mid k rfl (by omega),
            sliceI_toEnd mid (k + 1) (Int.natCast_succ k).symm hk]
          cases (mid.take k).all ctcpTagByte <;> rfl
      · rfl

theorem EncodeCTCP_nil : Fn.EncodeCTCP none = .ok [] := rfl

theorem EncodeCTCP_eq (c : CTCPEvent) : Fn.EncodeCTCP (some c) = .ok (encodeCTCPRaw c.command c.text) := by
  simp only [gosem, Fn.EncodeCTCP, Option.isNone_some, EncodeCTCPRaw_eq]

theorem CTCP_parseCMD_loop1_eq (s : Bytes) :
    Fn.CTCP_parseCMD_loop1 s (fuelTo 0 (len s)) 0 = .ok (if s.all ctcpTagByte then .done () else .ret []) :=
  forAll s (Fn.CTCP_parseCMD_loop1 s) ctcpTagByte []
    (fun fuel => by simp only [gosem, Fn.CTCP_parseCMD_loop1])
    (fun fuel n x hn hx => by simp only [gosem, Fn.CTCP_parseCMD_loop1, decide_lt_len hn, atI_ofNat hx, ctcpTag_cond])
    0 (Nat.zero_le _)

theorem CTCP_parseCMD_eq (cmd : Bytes) : Fn.CTCP_parseCMD cmd = .ok (ctcpParseCmd cmd) := by
  unfold Fn.CTCP_parseCMD ctcpParseCmd
  by_cases h : cmd = [0x2A]
  · subst h; rfl
  · simp only [gosem, beq_false_of_ne h, h, CTCP_parseCMD_loop1_eq]
    cases (toUpperAscii cmd).all ctcpTagByte <;> rfl

end Girc.Proofs.Trans
