import Girc.Spec.EventSpec
import Girc.Proofs.Utf8
import Girc.Proofs.BytesLemmas
/-
  Byte strings as the parser and the serialiser see them: cutting at a known length, `trimCRLF`, CR/LF-free
  (`NoCRLF`) and clean (`Clean`) strings.
-/
namespace Girc.Proofs.ParseLemmas
open Girc Girc.Model Girc.Proofs.BytesLemmas

theorem take_append_cons {a : Bytes} {n : Nat} (h : a.length = n) (c : Byte) (b : Bytes) :
    (a ++ c :: b).take n = a := List.take_left' h

theorem drop_append_cons {a : Bytes} {n : Nat} (h : a.length = n) (c : Byte) (b : Bytes) :
    (a ++ c :: b).drop (n + 1) = b := by
  subst h; rw [← List.drop_drop, List.drop_left]; rfl

theorem not_mem_of_all {f : Byte → Bool} {s : Bytes} (h : s.all f = true) {c : Byte} (hc : f c = false) :
    c ∉ s := fun hm => by
  rw [List.all_eq_true.mp h c hm] at hc; cases hc

theorem not_mem_append {c : Byte} (a b : Bytes) (ha : c ∉ a) (hb : c ∉ b) : c ∉ a ++ b :=
  fun h => (List.mem_append.mp h).elim ha hb

theorem dropWhile_head_false {α} (p : α → Bool) (l : List α)
    (h : ∀ x, l.head? = some x → p x = false) : l.dropWhile p = l := by
  cases l with
  | nil => rfl
  | cons x xs => simp [List.dropWhile, h x rfl]

theorem trimCRLF_append (body ending : Bytes) (hb : ∀ b ∈ body, isCRLF b = false)
    (he : ∀ b ∈ ending, isCRLF b = true) : trimCRLF (body ++ ending) = body := by
  unfold trimCRLF
  cases body with
  | nil =>
    have : ending.dropWhile isCRLF = [] := by
      have := List.dropWhile_append_of_pos (l₂ := []) he
      simpa using this
    simp [this]
  | cons x xs =>
    have hx : isCRLF x = false := hb x (by simp)
    have h1 : (x :: xs ++ ending).dropWhile isCRLF = x :: xs ++ ending := by
      simp [hx]
    rw [h1, List.reverse_append, List.dropWhile_append_of_pos (by simpa using he)]
    rw [dropWhile_head_false, List.reverse_reverse]
    intro z hz
    apply hb
    have : z ∈ (x :: xs).reverse := List.mem_of_mem_head? hz
    simpa [or_comm] using this

theorem trimCRLF_id (body : Bytes) (hb : ∀ b ∈ body, isCRLF b = false) : trimCRLF body = body := by
  have := trimCRLF_append body [] hb (by simp)
  simpa using this

/-- No CR and no LF. -/
def NoCRLF (s : Bytes) : Prop := ∀ b ∈ s, isCRLF b = false

theorem NoCRLF.nil : NoCRLF [] := fun _ hb => nomatch hb

theorem NoCRLF.cons {x : Byte} {s : Bytes} (hx : isCRLF x = false) (hs : NoCRLF s) :
    NoCRLF (x :: s) := List.forall_mem_cons.mpr ⟨hx, hs⟩

theorem NoCRLF.append {a b : Bytes} (ha : NoCRLF a) (hb : NoCRLF b) : NoCRLF (a ++ b) :=
  List.forall_mem_append.mpr ⟨ha, hb⟩

theorem NoCRLF.of_not_mem {s : Bytes} (hcr : CR ∉ s) (hlf : LF ∉ s) : NoCRLF s := by
  intro b hb
  cases h : isCRLF b with
  | false => rfl
  | true =>
    simp only [isCRLF, Bool.or_eq_true, decide_eq_true_eq] at h
    rcases h with rfl | rfl
    · exact absurd hb hcr
    · exact absurd hb hlf

theorem NoCRLF.of_all {f : Byte → Bool} {s : Bytes} (h : s.all f = true)
    (hcr : f CR = false) (hlf : f LF = false) : NoCRLF s :=
  .of_not_mem (not_mem_of_all h hcr) (not_mem_of_all h hlf)

theorem NoCRLF.not_cr {s : Bytes} (h : NoCRLF s) : CR ∉ s := fun hm => by
  have := h CR hm
  simp [isCRLF] at this

theorem NoCRLF.not_lf {s : Bytes} (h : NoCRLF s) : LF ∉ s := fun hm => by
  have := h LF hm
  simp [isCRLF] at this

theorem NoCRLF.joinWith {sep : Bytes} (hsep : NoCRLF sep) {items : List Bytes}
    (h : ∀ it ∈ items, NoCRLF it) : NoCRLF (joinWith sep items) :=
  joinWith_pred NoCRLF.nil (fun _ _ => NoCRLF.append) hsep h

theorem NoCRLF.filter {s : Bytes} (h : NoCRLF s) : s.filter (fun b => !isCRLF b) = s := by
  rw [List.filter_eq_self]
  intro b hb
  simp [h b hb]

end Girc.Proofs.ParseLemmas

namespace Girc.Proofs.RoundtripLemmas
open Girc Girc.Model Girc.Spec Girc.Proofs.ParseLemmas

/-- Valid UTF-8 without CR/LF: what `Event.Bytes` leaves as it is. -/
def Clean (s : Bytes) : Prop := validUTF8 s = true ∧ NoCRLF s

theorem Clean.nil : Clean [] := ⟨rfl, NoCRLF.nil⟩

theorem Clean.append {a b : Bytes} (ha : Clean a) (hb : Clean b) : Clean (a ++ b) :=
  ⟨Proofs.Utf8.validUTF8_append a b ha.1 hb.1, ha.2.append hb.2⟩

theorem Clean.single {b : Byte} (hb : b < 0x80) (hc : isCRLF b = false) : Clean [b] :=
  ⟨Proofs.Utf8.validUTF8_ascii [b] (by simp [hb]), NoCRLF.cons hc NoCRLF.nil⟩

theorem Clean.cons {b : Byte} {s : Bytes} (hb : b < 0x80) (hc : isCRLF b = false) (hs : Clean s) :
    Clean (b :: s) := (Clean.single hb hc).append hs

theorem Clean.of_ascii {s : Bytes} (ha : s.all (· < 0x80) = true) (hc : NoCRLF s) : Clean s :=
  ⟨Proofs.Utf8.validUTF8_ascii s ha, hc⟩

theorem cleanField_iff (s : Bytes) : cleanField s = true ↔ Clean s := by
  unfold cleanField Clean
  rw [Bool.and_eq_true, List.all_eq_true]
  refine and_congr_right fun _ => ⟨fun h b hb => ?_, fun h b hb => ?_⟩
  · have := h b hb
    simp only [Bool.and_eq_true, bne_iff_ne, ne_eq] at this
    simp [isCRLF, this.1, this.2]
  · have := h b hb
    simp only [isCRLF, Bool.or_eq_false_iff, decide_eq_false_iff_not] at this
    simp [this.1, this.2]

theorem Clean.filter {s : Bytes} (h : Clean s) :
    (toValidUTF8 [] s).filter (fun b => !isCRLF b) = s := by
  rw [Proofs.Utf8.toValidUTF8_of_validUTF8 _ _ h.1, h.2.filter]

end Girc.Proofs.RoundtripLemmas

