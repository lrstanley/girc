import Girc.Proofs.TransFormat
import Girc.Model.State
import Girc.Model.StsTime
/-
  Translator equivalence, state.go list helpers: (*User).InChannel / addChannel / deleteChannel and
  (*Channel).UserIn / addUser / deleteUser.  Pointer receivers: the generated functions return the new pointee.
  `u.Perms.set(name, Perms{})` / `u.Perms.remove(name)` are method calls on the unmodelled `*UserPerms` field and are
  ERASED by the translator (TRANSLATOR_NOTES §2.15): the theorems about addChannel / deleteChannel are about every
  field except `perms`.  The ties of addChannel / addUser / deleteChannel / deleteUser take a few lines each from the lemmas
  here and `forFirst`, and are proved where they are stated, in Props/TieState.lean.

  `(*strictTransport).expired`, `enabled`, `reset` are tied to the timed STS model
  (Model/StsTime.lean `expiredAt`, Model/Sts.lean `Sts.enabled`, `Sts.reset`).  `time.Now()` is the parameter `now`;
  `time.Since(t)` ↦ `timeSince now t` (saturating, = the model's `since`), `int(d.Seconds())` ↦ `durWholeSeconds d`
  (= the model's `wholeSeconds`).  The Go struct is `Model.StrictTransport` (Base/GoSem.lean) (all six fields, clock readings as integers);
  the model splits it into `Sts` (the untimed part), `received` and an optional `lastFailed` (none = the zero time).
  These ties hold by evaluation and are proved in Props/TieSts.lean.
-/
namespace Girc.Proofs.Trans
open Girc Girc.Model Girc.Go Girc.Gen

/-- `append(l[:j], l[j+1:]...)` at the first position `j` of `x`, or `l` untouched when `x` is absent: `List.erase`. -/
theorem erase_eq_of_findIdx? (l : List Bytes) (x : Bytes) :
    l.erase x = match l.findIdx? (· == x) with
      | some d => l.take d ++ l.drop (d + 1)
      | none => l := by
  rw [List.erase_eq_eraseIdx, List.idxOf?]
  cases l.findIdx? (· == x) with
  | none => rfl
  | some d => exact List.eraseIdx_eq_take_drop_succ l d

theorem findIdx?_lt {α : Type} {p : α → Bool} {l : List α} {d : Nat} (h : l.findIdx? p = some d) : d < l.length :=
  (List.findIdx?_eq_some_iff_getElem.mp h).1

theorem User_InChannel_eq (u : User) (name : Bytes) : Fn.User_InChannel (some u) name = .ok (u.inChannel name) := by
  have hl := Int.natCast_zero ▸ forAny u.chans (Fn.User_InChannel_loop1 (some u) (fold name)) (· == fold name) true
    (fun fuel => by simp only [gosem, Fn.User_InChannel_loop1])
    (fun fuel n x hn hx => by simp only [gosem, Fn.User_InChannel_loop1, decide_lt_len hn, atL_ofNat hx])
    0 (Nat.zero_le _)
  simp only [gosem, Fn.User_InChannel, User.inChannel, ToRFC1459_eq, hl, List.drop_zero, List.any_beq']
  cases u.chans.contains (fold name) <;> rfl

theorem Channel_UserIn_eq (c : Channel) (nick : Bytes) : Fn.Channel_UserIn (some c) nick = .ok (c.userIn nick) := by
  have hl := Int.natCast_zero ▸ forAny c.users (Fn.Channel_UserIn_loop1 (some c) (fold nick)) (· == fold nick) true
    (fun fuel => by simp only [gosem, Fn.Channel_UserIn_loop1])
    (fun fuel n x hn hx => by simp only [gosem, Fn.Channel_UserIn_loop1, decide_lt_len hn, atL_ofNat hx])
    0 (Nat.zero_le _)
  simp only [gosem, Fn.Channel_UserIn, Channel.userIn, ToRFC1459_eq, hl, List.drop_zero, List.any_beq']
  cases c.users.contains (fold nick) <;> rfl

theorem timeSince_eq (now t : Int) : timeSince now t = since now t := rfl
theorem durWholeSeconds_eq (d : Int) : durWholeSeconds d = wholeSeconds d := rfl

/-- `reset` writes three fields through the receiver; the clock readings and `beginUpgrade` are kept. -/
theorem strictTransport_reset_go (s : StrictTransport) :
    Fn.strictTransport_reset (some s) =
      .ok (some { s with upgradePort := -1, persistenceDuration := -1, preload := false }) := rfl

end Girc.Proofs.Trans
