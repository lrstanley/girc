import Girc.Spec.SplitSpec
import Girc.Proofs.Utf8
import Girc.Proofs.BytesLemmas
/-
  `splitWords` (FieldsFunc on TAB VT FF SPACE U+0085 U+00A0): it peels a separator-free word, then a
  separator rune, and goes on; everything about the words follows from that induction principle.
-/
namespace Girc.Proofs.SplitSep
open Girc Girc.Model Girc.Spec Girc.Proofs.Utf8 Girc.Proofs.RoundtripUtf8 Girc.Proofs.SplitUtf8 Girc.Proofs.BytesLemmas

def sep1 (b : Byte) : Bool := b = 0x09 || b = 0x0B || b = 0x0C || b = 0x20
def sep2 (b c : Byte) : Bool := b = 0xC2 && (c = 0x85 || c = 0xA0)

theorem sepLen_nil : sepLen [] = 0 := rfl

theorem sep1_cases {b : Byte} (h : sep1 b = true) : b = 0x09 ∨ b = 0x0B ∨ b = 0x0C ∨ b = 0x20 := by
  simpa only [sep1, Bool.or_eq_true, decide_eq_true_eq, or_assoc] using h

theorem sep2_cases {b c : Byte} (h : sep2 b c = true) : b = 0xC2 ∧ (c = 0x85 ∨ c = 0xA0) := by
  simpa only [sep2, Bool.and_eq_true, Bool.or_eq_true, decide_eq_true_eq] using h

theorem sepLen_of_sep1 {b : Byte} (h : sep1 b = true) (r : Bytes) : sepLen (b :: r) = 1 := by
  rcases sep1_cases h with rfl | rfl | rfl | rfl <;> rfl

theorem sepLen_of_sep2 {b c : Byte} (h : sep2 b c = true) (r : Bytes) : sepLen (b :: c :: r) = 2 := by
  rcases sep2_cases h with ⟨rfl, rfl | rfl⟩ <;> rfl

theorem sepLen_eq_zero (s : Bytes) (h1 : ∀ b r, s = b :: r → sep1 b = false)
    (h2 : ∀ b c r, s = b :: c :: r → sep2 b c = false) : sepLen s = 0 :=
  sepLen.eq_7 s (fun _ e => absurd (h1 _ _ e) (by decide)) (fun _ e => absurd (h1 _ _ e) (by decide))
    (fun _ e => absurd (h1 _ _ e) (by decide)) (fun _ e => absurd (h1 _ _ e) (by decide))
    (fun _ e => absurd (h2 _ _ _ e) (by decide)) (fun _ e => absurd (h2 _ _ _ e) (by decide))

theorem sepLen_single (b : Byte) : sepLen [b] = if sep1 b then 1 else 0 := by
  cases h : sep1 b
  · exact sepLen_eq_zero _ (fun _ _ e => by cases e; exact h) (fun _ _ _ e => by cases e)
  · exact sepLen_of_sep1 h []

theorem sepLen_cons2 (b c : Byte) (r : Bytes) :
    sepLen (b :: c :: r) = if sep1 b then 1 else if sep2 b c then 2 else 0 := by
  cases h : sep1 b
  · cases h2 : sep2 b c
    · exact sepLen_eq_zero _ (fun _ _ e => by cases e; exact h) (fun _ _ _ e => by cases e; exact h2)
    · exact sepLen_of_sep2 h2 r
  · exact sepLen_of_sep1 h _

theorem sep1_of_sepLen_zero {b : Byte} {r : Bytes} (h : sepLen (b :: r) = 0) : sep1 b = false := by
  cases h1 : sep1 b
  · rfl
  · rw [sepLen_of_sep1 h1] at h; cases h

/-- `sepLen` looks at two bytes at most: what follows them does not matter, … -/
theorem sepLen_zero_of_append (b : Byte) (a t : Bytes) (h : sepLen (b :: (a ++ t)) = 0) : sepLen (b :: a) = 0 := by
  cases a with
  | nil => rw [sepLen_single, sep1_of_sepLen_zero h]; rfl
  | cons c a => rwa [List.cons_append, sepLen_cons2, ← sepLen_cons2 b c a] at h

/-- A string whose first byte, if any, cannot complete a two-byte separator. -/
def NoTail (t : Bytes) : Prop := ∀ c t', t = c :: t' → ∀ b, sep2 b c = false

/-- … unless a lone 0xC2 is followed by 0x85 or 0xA0. -/
theorem sepLen_append_of_zero (b : Byte) (a t : Bytes) (h : sepLen (b :: a) = 0) (ht : NoTail t) :
    sepLen (b :: (a ++ t)) = 0 := by
  cases a with
  | nil =>
    exact sepLen_eq_zero _ (fun _ _ e => by cases e; exact sep1_of_sepLen_zero h)
      (fun _ c r e => by cases e; exact ht c r rfl b)
  | cons c a => rwa [List.cons_append, sepLen_cons2, ← sepLen_cons2 b c a]

/-- No separator rune anywhere (checked at every byte position, as `FieldsFunc` effectively does on
    valid UTF-8). -/
def sepFree : Bytes → Bool
  | [] => true
  | b :: r => sepLen (b :: r) == 0 && sepFree r

theorem sepFree_cons {b : Byte} {r : Bytes} :
    sepFree (b :: r) = true ↔ sepLen (b :: r) = 0 ∧ sepFree r = true := by
  simp only [sepFree, Bool.and_eq_true, beq_iff_eq]

theorem sepFree_append_right : ∀ (a b : Bytes), sepFree (a ++ b) = true → sepFree b = true
  | [], _, h => h
  | _ :: a, b, h => sepFree_append_right a b (sepFree_cons.mp h).2

theorem sepFree_append_left : ∀ (a b : Bytes), sepFree (a ++ b) = true → sepFree a = true
  | [], _, _ => rfl
  | x :: a, b, h =>
    have h := sepFree_cons.mp h
    sepFree_cons.mpr ⟨sepLen_zero_of_append x a b h.1, sepFree_append_left a b h.2⟩

theorem sepFree_take (n : Nat) (w : Bytes) (h : sepFree w = true) : sepFree (w.take n) = true :=
  sepFree_append_left _ (w.drop n) (by rw [List.take_append_drop]; exact h)

theorem sepFree_drop (n : Nat) (w : Bytes) (h : sepFree w = true) : sepFree (w.drop n) = true :=
  sepFree_append_right (w.take n) _ (by rw [List.take_append_drop]; exact h)

/-- A separator rune of the splitter. -/
def IsSepRune (sep : Bytes) : Prop :=
  (∃ b, sep = [b] ∧ sep1 b = true) ∨ (∃ c, sep = [0xC2, c] ∧ (c = 0x85 ∨ c = 0xA0))

theorem sep1_lt {b : Byte} (h : sep1 b = true) : b < 0x80 := by
  rcases sep1_cases h with rfl | rfl | rfl | rfl <;> decide

theorem IsSepRune.valid {sep : Bytes} (h : IsSepRune sep) : Valid sep := by
  rcases h with ⟨b, rfl, hb⟩ | ⟨c, rfl, hc⟩
  · exact valid_single b (sep1_lt hb)
  · refine Valid.step _ 2 ?_ Valid.nil
    rcases hc with rfl | rfl <;> decide

theorem IsSepRune.lead {sep : Bytes} (h : IsSepRune sep) : ∃ c r, sep = c :: r ∧ isLead c := by
  rcases h with ⟨b, rfl, hb⟩ | ⟨c, rfl, _⟩
  · exact ⟨b, [], rfl, Or.inl (sep1_lt hb)⟩
  · exact ⟨0xC2, [c], rfl, Or.inr (by decide)⟩

theorem IsSepRune.length_pos {sep : Bytes} (h : IsSepRune sep) : 1 ≤ sep.length := by
  rcases h with ⟨b, rfl, _⟩ | ⟨c, rfl, _⟩ <;> simp

theorem IsSepRune.noTail {sep : Bytes} (h : IsSepRune sep) (r : Bytes) : NoTail (sep ++ r) := by
  intro c t' e b
  have hc : c = 0x09 ∨ c = 0x0B ∨ c = 0x0C ∨ c = 0x20 ∨ c = 0xC2 := by
    rcases h with ⟨x, rfl, hx⟩ | ⟨x, rfl, _⟩
    · cases e
      rcases sep1_cases hx with h | h | h | h <;> simp [h]
    · cases e; simp
  unfold sep2
  rcases hc with rfl | rfl | rfl | rfl | rfl <;> simp

theorem sep_decomp : ∀ s : Bytes,
    sepFree s = true ∨ ∃ w sep r, s = w ++ sep ++ r ∧ sepFree w = true ∧ IsSepRune sep
  | [] => Or.inl rfl
  | b :: s => by
    by_cases h0 : sepLen (b :: s) = 0
    · rcases sep_decomp s with hs | ⟨w, sep, r, rfl, hw, hsep⟩
      · exact Or.inl (sepFree_cons.mpr ⟨h0, hs⟩)
      · rw [List.append_assoc] at h0
        exact Or.inr ⟨b :: w, sep, r, rfl, sepFree_cons.mpr ⟨sepLen_zero_of_append b w _ h0, hw⟩, hsep⟩
    · refine Or.inr ⟨[], ?_⟩
      cases h1 : sep1 b with
      | true => exact ⟨[b], s, rfl, rfl, Or.inl ⟨b, rfl, h1⟩⟩
      | false =>
        cases s with
        | nil => exact absurd (by rw [sepLen_single, h1]; rfl) h0
        | cons c r =>
          cases h2 : sep2 b c with
          | false => exact absurd (by rw [sepLen_cons2, h1, h2]; rfl) h0
          | true =>
            obtain ⟨rfl, hc⟩ := sep2_cases h2
            exact ⟨[0xC2, c], r, rfl, rfl, Or.inr ⟨c, rfl, hc⟩⟩

theorem splitWords_nil : splitWords [] = [] := rfl

theorem splitWordsAux_sepFree (t : Bytes) (ht : NoTail t) : ∀ (w acc : Bytes), sepFree w = true →
    splitWordsAux (w ++ t) 0 acc = splitWordsAux t 0 (w.reverse ++ acc)
  | [], _, _ => rfl
  | b :: w, acc, h => by
    obtain ⟨h0, hw⟩ := sepFree_cons.mp h
    rw [List.cons_append, splitWordsAux]
    simp only [sepLen_append_of_zero b w t h0 ht, if_true]
    rw [splitWordsAux_sepFree t ht w (b :: acc) hw, List.reverse_cons, List.append_assoc]
    rfl

theorem splitWordsAux_rune {sep : Bytes} (h : IsSepRune sep) (r cur : Bytes) :
    splitWordsAux (sep ++ r) 0 cur = (if cur.isEmpty then [] else [cur.reverse]) ++ splitWordsAux r 0 [] := by
  rcases h with ⟨b, rfl, hb⟩ | ⟨c, rfl, hc⟩
  · rw [List.singleton_append, splitWordsAux]
    simp only [sepLen_of_sep1 hb, Nat.succ_ne_zero, if_false, Nat.sub_self]
  · have h2 : sepLen (0xC2 :: c :: r) = 2 := sepLen_of_sep2 (by rcases hc with rfl | rfl <;> rfl) r
    rw [List.cons_append, List.singleton_append, splitWordsAux]
    simp only [h2, Nat.succ_ne_zero, if_false]
    rfl

theorem splitWords_sepFree (w : Bytes) (h : sepFree w = true) :
    splitWords w = if w.isEmpty then [] else [w] := by
  have := splitWordsAux_sepFree [] (fun _ _ e => nomatch e) w [] h
  rw [List.append_nil, List.append_nil] at this
  rw [splitWords, this, splitWordsAux, List.isEmpty_reverse, List.reverse_reverse]

theorem splitWords_step (w sep r : Bytes) (h : sepFree w = true) (hsep : IsSepRune sep) :
    splitWords (w ++ sep ++ r) = (if w.isEmpty then [] else [w]) ++ splitWords r := by
  rw [splitWords, List.append_assoc, splitWordsAux_sepFree _ (hsep.noTail r) w [] h, splitWordsAux_rune hsep,
    List.append_nil, List.isEmpty_reverse, List.reverse_reverse]
  rfl

theorem splitWords_ind (Q : Bytes → List Bytes → Prop)
    (hend : ∀ w, sepFree w = true → Q w (if w.isEmpty then [] else [w]))
    (hstep : ∀ w sep r ws, sepFree w = true → IsSepRune sep → Q r ws →
      Q (w ++ sep ++ r) ((if w.isEmpty then [] else [w]) ++ ws)) :
    ∀ s, Q s (splitWords s) := by
  intro s
  induction s using bytes_strong_induction with
  | _ s ih =>
    rcases sep_decomp s with hs | ⟨w, sep, r, rfl, hw, hsep⟩
    · rw [splitWords_sepFree s hs]
      exact hend s hs
    · rw [splitWords_step w sep r hw hsep]
      refine hstep w sep r _ hw hsep (ih r ?_)
      have := hsep.length_pos
      simp only [List.length_append]
      omega

theorem splitWords_sepFree_ne (w : Bytes) (hne : w ≠ []) (h : sepFree w = true) : splitWords w = [w] := by
  rw [splitWords_sepFree w h, if_neg (by rw [List.isEmpty_iff]; exact hne)]

theorem splitWords_append_SP (cur x : Bytes) :
    splitWords (cur ++ SP :: x) = splitWords cur ++ splitWords x := by
  have hsp : IsSepRune [SP] := Or.inl ⟨SP, rfl, rfl⟩
  refine splitWords_ind (fun cur ws => splitWords (cur ++ SP :: x) = ws ++ splitWords x) ?_ ?_ cur
  · intro w hw
    rw [List.append_cons]
    exact splitWords_step w [SP] x hw hsp
  · intro w sep r ws hw hsep ih
    rw [List.append_assoc (w ++ sep), splitWords_step w sep _ hw hsep, ih, List.append_assoc]

theorem splitWords_good (s : Bytes) (hv : Valid s) : ∀ wd ∈ splitWords s, sepFree wd = true ∧ Valid wd := by
  refine splitWords_ind (fun s ws => Valid s → ∀ wd ∈ ws, sepFree wd = true ∧ Valid wd) ?_ ?_ s hv
  · intro w hf hv wd hwd
    split at hwd
    · cases hwd
    · rw [List.mem_singleton.mp hwd]
      exact ⟨hf, hv⟩
  · intro w sep r ws hf hsep ih hv wd hwd
    obtain ⟨c, r', hc, hlead⟩ := hsep.lead
    rw [List.append_assoc] at hv
    have h1 := hv.split_lead (Or.inr ⟨c, r' ++ r, by rw [hc]; rfl, hlead⟩)
    rcases List.mem_append.mp hwd with hwd | hwd
    · split at hwd
      · cases hwd
      · rw [List.mem_singleton.mp hwd]
        exact ⟨hf, h1.1⟩
    · exact ih (hsep.valid.drop_prefix r h1.2) wd hwd

/-- The bound behind the fuel `splitMessage` gives the newline pass (`SplitWords.words_filter`). -/
theorem splitWords_sum (s : Bytes) : wsum (splitWords s) ≤ s.length + 1 := by
  refine splitWords_ind (fun s ws => wsum ws ≤ s.length + 1) ?_ ?_ s
  · intro w _
    split <;> simp [wsum]
  · intro w sep r ws _ hsep ih
    have := hsep.length_pos
    simp only [wsum, List.map_append, List.sum_append, List.length_append] at ih ⊢
    split <;> simp <;> omega

theorem mem_splitWords (s : Bytes) : ∀ wd ∈ splitWords s, ∀ b ∈ wd, b ∈ s := by
  refine splitWords_ind (fun s ws => ∀ wd ∈ ws, ∀ b ∈ wd, b ∈ s) ?_ ?_ s
  · intro w _ wd hwd b hb
    split at hwd
    · cases hwd
    · rwa [List.mem_singleton.mp hwd] at hb
  · intro w sep r ws _ _ ih wd hwd b hb
    rcases List.mem_append.mp hwd with hwd | hwd
    · split at hwd
      · cases hwd
      · rw [List.mem_singleton.mp hwd] at hb
        exact List.mem_append_left _ (List.mem_append_left _ hb)
    · exact List.mem_append_right _ (ih wd hwd b hb)

end Girc.Proofs.SplitSep
