import Girc.Base.GoSem
/-
  The checked run-time operations of `Base/GoSem.lean` (index, slice, element assignment, `IndexByte`) at
  arguments that are casts of naturals: they return without a fault, and what they return.
-/
namespace Girc.Proofs.Trans
open Girc Girc.Model Girc.Go

/-! `atI`/`atL` and `sliceI`/`sliceL` are `atA` and `sliceA` at the element types `Byte` and `Bytes`: each fact is proved for
the generic operation and instantiated. -/

theorem atA_ofNat {α : Type} {s : List α} {n : Nat} {b : α} (h : s[n]? = some b) : atA s (n : Int) = .ok b := by
  obtain ⟨hn, _⟩ := List.getElem?_eq_some_iff.mp h
  unfold atA
  rw [if_pos ⟨Int.natCast_nonneg n, Int.ofNat_lt.mpr hn⟩, Int.toNat_natCast, h]

theorem atI_eq_atA (s : Bytes) (i : Int) : atI s i = atA s i := by
  unfold atI atA; cases s[i.toNat]? <;> rfl

theorem atL_eq_atA (s : List Bytes) (i : Int) : atL s i = atA s i := by
  unfold atL atA; cases s[i.toNat]? <;> rfl

theorem atI_ofNat {s : Bytes} {n : Nat} {b : Byte} (h : s[n]? = some b) : atI s (n : Int) = .ok b :=
  (atI_eq_atA s n).trans (atA_ofNat h)

theorem atL_ofNat {s : List Bytes} {n : Nat} {b : Bytes} (h : s[n]? = some b) : atL s (n : Int) = .ok b :=
  (atL_eq_atA s n).trans (atA_ofNat h)

theorem atI_cons_zero (c : Byte) (r : Bytes) : atI (c :: r) 0 = .ok c :=
  atI_ofNat (n := 0) rfl

theorem atI_cons_zero' (c : Byte) (r : Bytes) : atI (c :: r) ((0 : Nat) : Int) = .ok c :=
  atI_ofNat rfl

theorem atA_oob {α : Type} (s : List α) (i : Int) (h : ¬ (0 ≤ i ∧ i < s.length)) : atA s i = .error .indexOutOfRange := by
  unfold atA; rw [if_neg h]

theorem atI_oob (s : Bytes) (i : Int) (h : ¬ (0 ≤ i ∧ i < s.length)) : atI s i = .error .indexOutOfRange := by
  unfold atI; rw [if_neg h]

theorem atL_oob (s : List Bytes) (i : Int) (h : ¬ (0 ≤ i ∧ i < s.length)) : atL s i = .error .indexOutOfRange := by
  unfold atL; rw [if_neg h]

theorem drop_cons_of_getElem? {α : Type} {xs : List α} {n : Nat} {x : α} (hx : xs[n]? = some x) :
    xs.drop n = x :: xs.drop (n + 1) := by
  obtain ⟨hlt, rfl⟩ := List.getElem?_eq_some_iff.mp hx
  exact List.drop_eq_getElem_cons hlt

theorem getElem?_append_cons {α : Type} (A : List α) (b : α) (C : List α) : (A ++ b :: C)[A.length]? = some b := by
  rw [List.getElem?_append_right (Nat.le_refl _), Nat.sub_self]; rfl

theorem sliceA_ofNat {α : Type} (s : List α) {lo hi : Int} (a b : Nat) (ha : lo = a) (hb : hi = b) (h1 : a ≤ b)
    (h2 : b ≤ s.length) : sliceA s lo hi = .ok ((s.drop a).take (b - a)) := by
  subst ha hb
  unfold sliceA
  rw [if_pos ⟨Int.natCast_nonneg a, Int.ofNat_le.mpr h1, Int.ofNat_le.mpr h2⟩, Int.toNat_natCast, ← Int.ofNat_sub h1,
    Int.toNat_natCast]

theorem sliceA_toEnd {α : Type} (s : List α) {lo : Int} (a : Nat) (ha : lo = a) (h : a ≤ s.length) :
    sliceA s lo (len s) = .ok (s.drop a) := by
  rw [len, sliceA_ofNat s a s.length ha rfl h (Nat.le_refl _), List.take_of_length_le (by rw [List.length_drop]; omega)]

theorem sliceA_fromZero {α : Type} (s : List α) {hi : Int} (b : Nat) (hb : hi = b) (h : b ≤ s.length) :
    sliceA s 0 hi = .ok (s.take b) :=
  sliceA_ofNat s 0 b rfl hb (Nat.zero_le _) h

theorem sliceI_ofNat (s : Bytes) {lo hi : Int} (a b : Nat) (ha : lo = a) (hb : hi = b) (h1 : a ≤ b) (h2 : b ≤ s.length) :
    sliceI s lo hi = .ok ((s.drop a).take (b - a)) := sliceA_ofNat s a b ha hb h1 h2

theorem sliceI_toEnd (s : Bytes) {lo : Int} (a : Nat) (ha : lo = a) (h : a ≤ s.length) :
    sliceI s lo (len s) = .ok (s.drop a) := sliceA_toEnd s a ha h

theorem sliceI_fromZero (s : Bytes) {hi : Int} (b : Nat) (hb : hi = b) (h : b ≤ s.length) :
    sliceI s 0 hi = .ok (s.take b) := sliceA_fromZero s b hb h

theorem sliceL_ofNat (s : List Bytes) {lo hi : Int} (a b : Nat) (ha : lo = a) (hb : hi = b) (h1 : a ≤ b)
    (h2 : b ≤ s.length) : sliceL s lo hi = .ok ((s.drop a).take (b - a)) := sliceA_ofNat s a b ha hb h1 h2

theorem sliceL_toEnd (s : List Bytes) {lo : Int} (a : Nat) (ha : lo = a) (h : a ≤ s.length) :
    sliceL s lo (len s) = .ok (s.drop a) := sliceA_toEnd s a ha h

theorem sliceL_fromZero (s : List Bytes) {hi : Int} (b : Nat) (hb : hi = b) (h : b ≤ s.length) :
    sliceL s 0 hi = .ok (s.take b) := sliceA_fromZero s b hb h

theorem sliceCapA_ofNat {α : Type} (s sp : List α) {lo hi : Int} (a b : Nat) (ha : lo = a) (hb : hi = b) (h1 : a ≤ b)
    (h2 : b ≤ s.length + sp.length) : sliceCapA s sp lo hi = .ok (((s ++ sp).drop a).take (b - a)) := by
  subst ha hb
  unfold sliceCapA
  rw [if_pos ⟨Int.natCast_nonneg a, Int.ofNat_le.mpr h1, Int.ofNat_le.mpr h2⟩, Int.toNat_natCast, ← Int.ofNat_sub h1,
    Int.toNat_natCast]

theorem sliceL_bad (s : List Bytes) (a b : Int) (h : ¬ (0 ≤ a ∧ a ≤ b ∧ b ≤ s.length)) :
    sliceL s a b = .error .sliceBounds := if_neg h

theorem sliceCapA_bad {α : Type} (s sp : List α) (a b : Int) (h : ¬ (0 ≤ a ∧ a ≤ b ∧ b ≤ ((s.length + sp.length : Nat) : Int))) :
    sliceCapA s sp a b = .error .sliceBounds := if_neg h

theorem sliceL_ok (s : List Bytes) (a b : Int) (h : 0 ≤ a ∧ a ≤ b ∧ b ≤ s.length) :
    ∃ r, sliceL s a b = .ok r ∧ (r.length : Int) = b - a := by
  refine ⟨(s.drop a.toNat).take (b - a).toNat, by unfold sliceL; simp only [h, and_self, if_true], ?_⟩
  simp only [List.length_take, List.length_drop]
  omega

theorem sliceCapA_ok {α : Type} (s sp : List α) (a b : Int) (h : 0 ≤ a ∧ a ≤ b ∧ b ≤ ((s.length + sp.length : Nat) : Int)) :
    ∃ r, sliceCapA s sp a b = .ok r ∧ (r.length : Int) = b - a := by
  refine ⟨((s ++ sp).drop a.toNat).take (b - a).toNat, by unfold sliceCapA; simp only [h, and_self, if_true], ?_⟩
  simp only [List.length_take, List.length_drop, List.length_append]
  omega

theorem setA_ofNat {α : Type} {s : List α} {n : Nat} (v : α) (h : n < s.length) : setA s (n : Int) v = .ok (s.set n v) := by
  unfold setA
  rw [if_pos ⟨Int.natCast_nonneg n, Int.ofNat_lt.mpr h⟩, Int.toNat_natCast]

theorem setI_ofNat {s : Bytes} {n : Nat} (v : Byte) (h : n < s.length) : setI s (n : Int) v = .ok (s.set n v) :=
  setA_ofNat v h

theorem indexByteI_none {s : Bytes} {b : Byte} (h : indexOf b s = none) : indexByteI s b = -1 := by
  rw [indexByteI, h]

theorem indexByteI_some {s : Bytes} {b : Byte} {k : Nat} (h : indexOf b s = some k) : indexByteI s b = k := by
  rw [indexByteI, h]

end Girc.Proofs.Trans
