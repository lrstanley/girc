import Girc.Proofs.ParseLemmas
import Girc.Spec.Grammar
/-
  `parseTags` on a rendered tag list, and byte facts about tag keys.
-/
namespace Girc.Proofs.ParseTags
open Girc Girc.Model Girc.Spec Girc.Proofs.ParseLemmas Girc.Proofs.BytesLemmas

/-- A byte that may occur in a valid tag key (including the client-only prefix '+'). -/
def keyByteOK (b : Byte) : Bool := tagKeyByte b || b == 0x2B

theorem keyByteOK_ascii : ∀ b : UInt8, keyByteOK b = true → b < 0x80 := by
  decide +kernel

theorem validTag_bytes (k : Bytes) (h : validTag k = true) :
    k ≠ [] ∧ ∀ b ∈ k, keyByteOK b = true := by
  cases k with
  | nil => simp [validTag] at h
  | cons x xs =>
    refine ⟨by simp, ?_⟩
    unfold validTag at h
    simp only [List.length_cons, Nat.succ_lt_succ_iff, Nat.not_lt_zero, if_false] at h
    by_cases hc : (decide (xs.length + 1 ≥ 2) && decide ((x :: xs).head? = some 0x2B)) = true
    · rw [if_pos hc] at h
      simp only [List.head?_cons, Bool.and_eq_true, decide_eq_true_eq, Option.some.injEq] at hc
      intro b hb
      simp only [List.mem_cons] at hb
      rcases hb with hb | hb
      · subst hb; simp [keyByteOK, hc.2]
      · have := List.all_eq_true.mp h b (by simpa using hb)
        simp [keyByteOK, this]
    · rw [if_neg hc] at h
      intro b hb
      have := List.all_eq_true.mp h b hb
      simp [keyByteOK, this]

theorem validTag_ne_nil (k : Bytes) (h : validTag k = true) : k ≠ [] := (validTag_bytes k h).1

theorem validTag_not_mem (k : Bytes) (h : validTag k = true) (c : Byte)
    (hc : keyByteOK c = false) : c ∉ k := by
  intro hm
  have := (validTag_bytes k h).2 c hm
  rw [hc] at this
  exact absurd this (by simp)

theorem validTag_no_eq (k : Bytes) (h : validTag k = true) : (0x3D : Byte) ∉ k :=
  validTag_not_mem k h _ (by decide)
theorem validTag_no_semi (k : Bytes) (h : validTag k = true) : (0x3B : Byte) ∉ k :=
  validTag_not_mem k h _ (by decide)
theorem validTag_no_sp (k : Bytes) (h : validTag k = true) : SP ∉ k :=
  validTag_not_mem k h _ (by decide)
theorem validTag_no_cr (k : Bytes) (h : validTag k = true) : CR ∉ k :=
  validTag_not_mem k h _ (by decide)
theorem validTag_no_lf (k : Bytes) (h : validTag k = true) : LF ∉ k :=
  validTag_not_mem k h _ (by decide)
theorem validTag_no_nul (k : Bytes) (h : validTag k = true) : NUL ∉ k :=
  validTag_not_mem k h _ (by decide)

theorem validTag_head (k : Bytes) (h : validTag k = true) : k.head? ≠ some 0x40 := by
  intro hh
  have hm : (0x40 : Byte) ∈ k := List.mem_of_mem_head? hh
  exact validTag_not_mem k h _ (by decide) hm

theorem validTag_ascii (k : Bytes) (h : validTag k = true) : k.all (· < 0x80) = true := by
  rw [List.all_eq_true]
  intro b hb
  exact decide_eq_true (keyByteOK_ascii b ((validTag_bytes k h).2 b hb))

theorem parseTagItem_renderTag (t : Tags) (x : Bytes × Option Bytes) (hv : validTag x.1 = true) :
    parseTagItem t (renderTag x) = AMap.set t x.1 (x.2.getD []) := by
  obtain ⟨k, ov⟩ := x
  have hne := validTag_no_eq k hv
  unfold parseTagItem
  cases ov with
  | none =>
    rw [show renderTag (k, none) = k from rfl, indexOf_none _ _ hne]
    simp [hv]
  | some v =>
    match k, validTag_ne_nil k hv with
    | x :: xs, _ =>
      have hl : (x :: xs).length = xs.length + 1 := rfl
      rw [show renderTag (x :: xs, some v) = (x :: xs) ++ 0x3D :: v from List.append_assoc _ _ _,
        indexOf_append_cons _ _ _ hne]
      show AMap.set t (List.take (xs.length + 1) _) (List.drop (xs.length + 2) _) = _
      rw [take_append_cons hl, drop_append_cons hl]
      rfl

theorem foldl_parseTagItem (ts : List (Bytes × Option Bytes)) (hv : ∀ x ∈ ts, validTag x.1 = true) :
    ∀ acc : Tags, (ts.map renderTag).foldl parseTagItem acc =
      ts.foldl (fun m t => AMap.set m t.1 (t.2.getD [])) acc := by
  induction ts with
  | nil => intro acc; rfl
  | cons x ts ih =>
    intro acc
    simp only [List.map_cons, List.foldl_cons]
    rw [parseTagItem_renderTag acc x (hv x (by simp))]
    exact ih (fun y hy => hv y (by simp [hy])) _

theorem renderTag_head (x : Bytes × Option Bytes) (hv : validTag x.1 = true) :
    renderTag x ≠ [] ∧ (renderTag x).head? = x.1.head? := by
  obtain ⟨k, ov⟩ := x
  have hne := validTag_ne_nil k hv
  cases k with
  | nil => exact absurd rfl hne
  | cons b bs => cases ov <;> simp [renderTag]

theorem parseTags_render (ts : List (Bytes × Option Bytes)) (hne : ts ≠ [])
    (hk : ∀ x ∈ ts, validTag x.1 = true)
    (hv : ∀ x ∈ ts, ∀ v, x.2 = some v → (0x3B : Byte) ∉ v) :
    parseTags (joinWith [0x3B] (ts.map renderTag)) = meaningTags ts := by
  cases ts with
  | nil => exact absurd rfl hne
  | cons x ts =>
    have hx := renderTag_head x (hk x (by simp))
    have hhead : (joinWith [0x3B] ((x :: ts).map renderTag)).head? ≠ some 0x40 := by
      rw [List.map_cons, joinWith_head _ _ _ hx.1, hx.2]
      exact validTag_head _ (hk x (by simp))
    unfold parseTags
    simp only [hhead, if_false]
    rw [splitOnByte_joinWith _ _ (by simp)]
    · exact foldl_parseTagItem (x :: ts) hk []
    · intro it hit
      simp only [List.mem_map] at hit
      obtain ⟨y, hy, rfl⟩ := hit
      obtain ⟨k, ov⟩ := y
      have hks := validTag_no_semi k (hk _ hy)
      cases ov with
      | none => simpa [renderTag] using hks
      | some v =>
        have := hv _ hy v rfl
        simp [renderTag, hks, this]

end Girc.Proofs.ParseTags
