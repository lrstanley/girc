import Girc.Proofs.TransTags
import Girc.Proofs.TransFormat
import Girc.Proofs.TransCtcp
import Girc.Model.Event
import Girc.Proofs.ParseTotal
import Girc.Model.EventHelpers
import Girc.Model.Phase4Helpers
import Girc.Model.Split
/-
  Translator equivalence, event.go: the parser (`ParseSource`, `ParseEvent`), the serialiser (`Len`, `Bytes`, `String`),
  the query helpers of `*Event` and `*Source`, `Equals`, `Copy` and `split`.  The loop lemmas and the longer equalities
  are here; the short final steps stand under the tie theorems in Props/TieWire.lean, TieCtcp.lean and TieSplit.lean.

  `(*Event).split` is tied to the model `eventSplit` of Model/Split.lean.  `splitMessage` is a MODEL CALLEE (translate.go
  `modelCalleeTable`): the generated `Fn.Event_split` calls `Girc.Model.splitMessageGo isURL`, so the theorem is "the
  event side of the splitter is the model's, given the model's text splitter" — the C11 correspondence stream compares
  the text splitter itself with Go.

  Value level: a `*Event` is `Option Event`; pointer identity is outside the model.  Where the Go code returns the
  very pointer `e` (`[]*Event{e}`) the generated function returns `[some e]`; where it returns fresh copies, the
  copies are equal VALUES.  `Tags` is an association list: `Copy` rebuilds the map entry by entry, which gives the
  same list back exactly when the keys are unique (the representation invariant of a Go map).
-/
namespace Girc.Proofs.Trans
open Girc Girc.Model Girc.Go Girc.Gen

theorem Source_Len_eq (s : Source) : Fn.Source_Len (some s) = .ok (sourceLen s : Int) := by
  unfold Fn.Source_Len sourceLen
  simp only [gosem, decide_len_pos]
  by_cases hi : s.ident.length > 0 <;> by_cases hh : s.host.length > 0 <;> simp [hi, hh, len] <;> omega

theorem Source_writeTo_eq (s : Source) (buf : Bytes) : Fn.Source_writeTo (some s) buf = .ok (buf ++ sourceBytes s) := by
  unfold Fn.Source_writeTo sourceBytes
  simp only [gosem, decide_len_pos, show Fn.prefixIdent = BANG from rfl, show Fn.prefixHost = AT from rfl]
  by_cases hi : s.ident.length > 0 <;> by_cases hh : s.host.length > 0 <;> simp [hi, hh]

theorem ParseSource_eq (raw : Bytes) : Fn.ParseSource raw = .ok (some (parseSource raw)) := by
  unfold Fn.ParseSource parseSource
  have neg : decide ((-1 : Int) > 0) = false := rfl
  have zero : decide (((0 : Nat) : Int) > 0) = false := rfl
  have pos (n : Nat) : decide (((n + 1 : Nat) : Int) > 0) = true := decide_eq_true (Int.natCast_pos.mpr n.succ_pos)
  simp only [gosem, show Fn.prefixIdent = BANG from rfl, show Fn.prefixHost = AT from rfl, indexByteI]
  rcases hu : indexOf BANG raw with _ | _ | u
  case some.succ =>
    simp only [↓reduceIte, gosem, pos, sliceI_before hu, sliceI_after hu, Bool.true_and]
    cases hh : indexOf AT raw with
    | none => simp only [↓reduceIte, gosem, show decide ((-1 : Int) > ((u + 1 : Nat) : Int)) = false from decide_eq_false (by omega)]
    | some h =>
      have hl := BytesLemmas.indexOf_lt hh
      simp only [show decide ((h : Int) > ((u + 1 : Nat) : Int)) = decide (h > u + 1) from decide_congr Int.ofNat_lt]
      by_cases hgt : h > u + 1
      · simp only [↓reduceIte, gosem, hgt, decide_true, sliceI_after hh, List.drop_take,
          sliceI_ofNat raw (u + 2) h (Int.natCast_succ _).symm rfl hgt (Nat.le_of_lt hl)]
      · simp only [↓reduceIte, gosem, hgt, decide_false]
  -- no `!` after the first byte: only the host can be split off
  all_goals
    simp only [↓reduceIte, gosem, neg, zero, Bool.false_and]
    rcases hh : indexOf AT raw with _ | _ | h
    · rfl
    · rfl
    · simp only [↓reduceIte, gosem, pos, sliceI_before hh, sliceI_after hh]

theorem bind_congr_ok {α β : Type} {x : Except Fault α} {f g : α → Except Fault β} (h : ∀ a, x = .ok a → f a = g a) :
    x >>= f = x >>= g := by
  cases x with
  | error e => rfl
  | ok a => exact h a rfl

abbrev PELoopR := LoopR ((Option Event) × Int × Int × Int) (Option Event)

/-- The generated trailer loop against the hand-written `trailerLoopGo`, for any continuation that does not look at the
    two scratch counters (`lastIndex`, `trailerIndex`) the loop leaves behind. -/
theorem ParseEvent_loop1_bind (raw : Bytes) (j : Int) (k : PELoopR → Except Fault (Option Event))
    (hk : ∀ e i L T L' T', k (.done (e, i, L, T)) = k (.done (e, i, L', T'))) :
    ∀ (fuel : Nat) (ev : Event) (i L T : Int),
    (Fn.ParseEvent_loop1 raw j fuel (some ev) i L T >>= k) =
      (trailerLoopGo raw j fuel T >>= fun r =>
        match r with
        | none => sliceI raw j (len raw) >>= fun s => k (.ret (some { ev with params := fieldsSp s }))
        | some off => k (.done (some ev, off, 0, 0)))
  | 0, _, _, _, _ => rfl
  | fuel + 1, ev, i, L, T => by
    rw [Fn.ParseEvent_loop1, trailerLoopGo]
    simp only [gosem, bind_assoc, beq_iff_eq, show Fn.messagePrefix = COLON from rfl, show Fn.eventSpace = SP from rfl, len_eq]
    refine bind_congr fun s => ?_
    split
    · simp only [gosem, bind_assoc]
    · simp only [bind_assoc]
      refine bind_congr fun c => ?_
      split
      · simp only [gosem]
        exact hk _ _ _ _ _ _
      · rw [ParseEvent_loop1_bind raw j k hk fuel ev i T, Int.add_assoc]
        rfl

theorem ParseEvent_unfold (raw0 : Bytes) : Fn.ParseEvent raw0 = ParseTotal.goTop raw0 := by
  unfold Fn.ParseEvent ParseTotal.goTop
  extract_lets r0 e0 raw zero ev0 jp1 ix rawR iR
  have hjp1 (raw : Bytes) (t : Option Tags) :
      jp1 () raw (some { tags := t, source := none, command := [], params := [] }) 0 = ParseTotal.goSrc t raw := by
    simp -zeta only [jp1]
    extract_lets jp2 ix iy
    have hjp2 (t : Option Tags) (s : Option Source) (i : Int) :
        jp2 () (some { tags := t, source := s, command := [], params := [] }) i = ParseTotal.goTail t s raw i := by
      simp only [jp2, ParseTotal.goTail, gosem, len_eq, decide_eq_true_eq, show Fn.eventSpace = SP from rfl]
      refine bind_congr_ok fun rest hrest => ?_
      split
      · rw [hrest]; rfl
      · refine bind_congr fun cmd => ?_
        rw [ParseEvent_loop1_bind raw _ _ (by intros; rfl), Int.toNat_natCast]
        refine bind_congr fun r => ?_
        cases r with
        | none => simp only [gosem, len_eq]
        | some off =>
          simp only [gosem]
    -- the `:source ` section
    cases raw with
    | nil => simp only [ParseTotal.goSrc, gosem, show (([] : Bytes) != []) = false from rfl, if_neg (not_not_intro rfl), hjp2]
    | cons x xs =>
      simp only [ParseTotal.goSrc, gosem, beq_iff_eq, decide_eq_true_eq, ix, iy, show Fn.messagePrefix = COLON from rfl,
        show Fn.eventSpace = SP from rfl, atI_cons_zero, show ((x :: xs) != []) = true from rfl,
        if_pos (List.cons_ne_nil x xs), Bool.true_and, ParseSource_eq, hjp2]
  -- the `@tags ` section
  clear_value jp1
  simp only [gosem, beq_iff_eq, decide_eq_true_eq, len_eq, ix, zero, ev0, iR, rawR, raw, r0, show Fn.prefixTag = AT from rfl,
    show Fn.eventSpace = SP from rfl, ParseTags_eq, hjp1,
    show ((trimCRLF raw0).length : Int) < 2 ↔ (trimCRLF raw0).length < 2 from Int.ofNat_lt]

theorem ParseEvent_eq (raw : Bytes) : Fn.ParseEvent raw = .ok (parseEvent raw) := by
  rw [ParseEvent_unfold, ParseTotal.goTop_eq]

/-- The Go condition `strings.Contains(p, " ") || p == "" || strings.HasPrefix(p, ":")`. -/
theorem needsColon_cond (p : Bytes) :
    (containsSub p [0x20] || p == ([] : Bytes) || hasPrefix p [0x3A]) = needsColon p := by
  rw [containsSub_byte, hasPrefix_byte, needsColon]
  cases p <;> rfl

theorem paramsLen_cons (p : Bytes) (ps : List Bytes) :
    paramsLen (p :: ps) = 1 + p.length + (if ps.isEmpty && needsColon p then 1 else 0) + paramsLen ps := by
  cases ps with
  | nil => simp only [paramsLen, List.isEmpty_nil, Bool.true_and, Nat.add_zero]
  | cons => simp only [paramsLen, List.isEmpty_cons, Bool.false_and, Bool.false_eq_true, if_false, Nat.add_zero]

/-- The loop adds what the parameters need beyond the one SPACE each that is counted before it. -/
theorem Event_LenOpts_loop1_eq (e : Event) (L : Int) :
    Fn.Event_LenOpts_loop1 (some e) (fuelTo 0 (len e.params)) (L + len e.params) 0 = .ok (.done (L + paramsLen e.params)) :=
  forIdx_len e.params (Fn.Event_LenOpts_loop1 (some e))
    (fun n L => .done (L + paramsLen (e.params.drop n) - (e.params.drop n).length))
    (fun fuel L => by
      simp only [↓reduceIte, gosem, Fn.Event_LenOpts_loop1, List.drop_length, paramsLen, List.length_nil, Int.natCast_zero, Int.add_zero,
        Int.sub_zero])
    (fun fuel n L p hn hx ih => by
      simp only [↓reduceIte, gosem, Fn.Event_LenOpts_loop1, decide_lt_len hn, atL_ofNat hx, beq_pred_len hn, needsColon_cond,
        drop_cons_of_getElem? hx, paramsLen_cons, List.length_cons]
      cases (e.params.drop (n + 1)).isEmpty && needsColon p
      all_goals
        simp only [↓reduceIte, gosem, ih, len]
        congr 2
        omega)
    0 _ (Nat.zero_le _) |>.trans (by rw [len, List.drop_zero]; congr 2; omega)

theorem Event_LenOpts_eq (e : Event) (includeTags : Bool) :
    Fn.Event_LenOpts (some e) includeTags = .ok (eventLen e : Int) := by
  have hparams (L : Int) : (if decide (e.params.length > 0) = true then Except.ok (L + paramsLen e.params) else .ok L) =
      (.ok (L + paramsLen e.params) : Except Fault Int) := by
    cases e.params with
    | nil => exact congrArg Except.ok (Int.add_zero L).symm
    | cons => rfl
  unfold Fn.Event_LenOpts eventLen
  simp only [gosem, decide_len_pos, Tags_Len_eq, Event_LenOpts_loop1_eq, hparams]
  obtain ⟨tags, source, command, params⟩ := e
  rcases tags with _ | _ | ⟨t, ts⟩ <;> cases source
  all_goals
    simp only [↓reduceIte, gosem, Source_Len_eq, Option.isSome_some, Option.isSome_none, mapLen, len, List.length_cons, List.length_nil,
      Int.lt_irrefl, Nat.lt_irrefl, Nat.succ_pos, gt_iff_lt, decide_true, decide_false,
      Bool.false_eq_true, Int.natCast_add, Int.cast_ofNat_Int, Int.zero_add, Int.add_zero,
      Int.lt_add_one_iff, Int.natCast_nonneg]

theorem paramsBytes_cons (p : Bytes) (ps : List Bytes) :
    paramsBytes (p :: ps) = SP :: (if ps.isEmpty && needsColon p then COLON :: p else p) ++ paramsBytes ps := by
  cases ps with
  | nil => cases h : needsColon p <;> simp [paramsBytes, h]
  | cons => simp [paramsBytes]

theorem Event_Bytes_loop1_eq (e : Event) (B : Bytes) :
    Fn.Event_Bytes_loop1 (some e) (fuelTo 0 (len e.params)) B 0 = .ok (.done (B ++ paramsBytes e.params)) :=
  forIdx_len e.params (Fn.Event_Bytes_loop1 (some e)) (fun n B => .done (B ++ paramsBytes (e.params.drop n)))
    (fun fuel B => by simp only [↓reduceIte, gosem, Fn.Event_Bytes_loop1, List.drop_length, paramsBytes, List.append_nil])
    (fun fuel n B p hn hx ih => by
      simp only [↓reduceIte, gosem, Fn.Event_Bytes_loop1, decide_lt_len hn, atL_ofNat hx, beq_pred_len hn, needsColon_cond,
        drop_cons_of_getElem? hx, paramsBytes_cons, show strOfByte Fn.eventSpace = [SP] from rfl,
        show strOfByte Fn.messagePrefix = [COLON] from rfl]
      cases (e.params.drop (n + 1)).isEmpty && needsColon p
      all_goals
        simp only [↓reduceIte, gosem, ih, List.append_assoc, List.cons_append, List.nil_append])
    0 B (Nat.zero_le _)

theorem crlf_cond (c : Byte) : (c == 0x0A || c == 0x0D) = isCRLF c := by
  rw [isCRLF, Bool.or_comm, Bool.beq_eq_decide_eq, Bool.beq_eq_decide_eq]; rfl

/-- The in-place strip loop (`out = append(out[:i], out[i+1:]...); i--`) is a filter: `left` is what has been kept. -/
theorem Event_Bytes_loop2_eq : ∀ (fuel : Nat) (left right : Bytes), right.length < fuel →
    Fn.Event_Bytes_loop2 fuel (left.length : Int) (left ++ right) =
      .ok (.done (left ++ right.filter (fun b => !isCRLF b)))
  | 0, _, _, h => by omega
  | fuel + 1, left, [], _ => by
    simp only [↓reduceIte, gosem, Fn.Event_Bytes_loop2, List.append_nil, List.filter_nil]
  | fuel + 1, left, c :: right, h => by
    have hlt : left.length < (left ++ c :: right).length := by rw [List.length_append, List.length_cons]; omega
    simp only [↓reduceIte, gosem, Fn.Event_Bytes_loop2, decide_lt_len hlt, atI_ofNat (getElem?_append_cons left c right), crlf_cond,
      List.filter_cons]
    cases isCRLF c
    · simp only [gosem]
      have := Event_Bytes_loop2_eq fuel (left ++ [c]) right (Nat.lt_of_succ_lt_succ h)
      rwa [List.length_append, List.length_singleton, Int.natCast_add, List.append_assoc, List.append_assoc] at this
    · simp only [↓reduceIte, gosem, sliceI_append_left, Int.sub_add_cancel]
      rw [List.append_cons left c right, sliceI_append_right (left ++ [c]) right
        (by rw [List.length_append, List.length_singleton, Int.natCast_add]; rfl)]
      exact Event_Bytes_loop2_eq fuel left right (Nat.lt_of_succ_lt_succ h)

theorem Event_Bytes_eq (e : Event) : Fn.Event_Bytes (some e) = .ok (eventBytes e) := by
  have hstrip (out : Bytes) : Fn.Event_Bytes_loop2 (fuelTo 0 (len out)) 0 out = .ok (.done (out.filter fun b => !isCRLF b)) :=
    Event_Bytes_loop2_eq _ [] out (fuelTo_gt 0 _)
  unfold Fn.Event_Bytes eventBytes rawBytes
  simp only [gosem, decide_len_pos, Tags_writeTo_eq, Event_Bytes_loop1_eq, hstrip, show Fn.messagePrefix = COLON from rfl,
    show Fn.eventSpace = SP from rfl]
  obtain ⟨tags, source, command, params⟩ := e
  cases tags <;> cases source <;> cases params
  all_goals
    simp only [↓reduceIte, gosem, Option.isSome_some, Option.isSome_none, Source_writeTo_eq, show tagsWrite none = [] from rfl,
      List.length_cons, List.length_nil, Nat.succ_pos, Nat.lt_irrefl, gt_iff_lt, decide_true, decide_false, paramsBytes,
      List.append_assoc, List.nil_append, List.cons_append, List.append_nil]

theorem Event_Last_eq (e : Event) : Fn.Event_Last (some e) = .ok (eventLast e) := by
  unfold Fn.Event_Last eventLast
  simp only [gosem]
  cases hp : e.params with
  | nil => rfl
  | cons x xs =>
    have hl : len (x :: xs) - 1 = (xs.length : Int) := by rw [len, List.length_cons]; omega
    have hat : atL (x :: xs) (xs.length : Int) = .ok ((x :: xs).getLastD []) :=
      atL_ofNat (by
        rw [List.getLastD_eq_getLast?, List.getLast?_eq_getElem?, List.length_cons, Nat.add_sub_cancel,
          List.getElem?_eq_getElem (Nat.lt_succ_self _)]; rfl)
    simp only [gosem, hl, hat, show decide (len (x :: xs) ≥ 1) = true from decide_eq_true (by rw [len, List.length_cons]; omega)]

theorem Event_IsCTCP_eq (e : Event) : Fn.Event_IsCTCP (some e) = .ok (isCTCP e) := by
  simp only [Fn.Event_IsCTCP, isCTCP, gosem, DecodeCTCP_eq]

theorem Event_IsAction_eq (e : Event) : Fn.Event_IsAction (some e) = .ok (isAction e) := by
  unfold Fn.Event_IsAction isAction
  simp only [gosem, Event_IsCTCP_eq, isCTCP, show Fn.PRIVMSG = PRIVMSG from rfl, show Fn.CTCP_ACTION = CTCP_ACTION from rfl, bne]
  cases e.command == PRIVMSG
  · rfl
  · cases decodeCTCP e <;> rfl

theorem isChatTo_eq (e : Event) (test : Bytes → Bool) (F : Bytes → Except Fault Bool) (hF : ∀ s, F s = .ok (test s)) :
    (do
      if (← orE (orE (do pure (← Go.deref (some e)).source.isNone) (andE (do pure ((← Go.deref (some e)).command != Fn.PRIVMSG)) (do pure ((← Go.deref (some e)).command != Fn.NOTICE)))) (do pure (decide ((len (← Go.deref (some e)).params) < 1)))) then
        return false
      if (!(← F (← atL (← Go.deref (some e)).params 0))) then
        return false
      return true : Except Fault Bool) = .ok (isChatTo test e) := by
  obtain ⟨tags, source, command, params⟩ := e
  simp only [isChatTo, gosem, hF, show Fn.PRIVMSG = PRIVMSG from rfl, show Fn.NOTICE = NOTICE from rfl, bne]
  cases params with
  | nil => cases source <;> cases command == PRIVMSG <;> cases command == NOTICE <;> rfl
  | cons p ps =>
    simp only [gosem, List.head?_cons, show atL (p :: ps) 0 = .ok p from atL_ofNat (n := 0) rfl,
      show decide (len (p :: ps) < 1) = false from decide_eq_false (by rw [len, List.length_cons]; omega)]
    cases source <;> cases command == PRIVMSG <;> cases command == NOTICE <;> cases test p <;> rfl

theorem Source_ID_eq (s : Source) : Fn.Source_ID (some s) = .ok (sourceID s) := by
  simp only [Fn.Source_ID, sourceID, gosem, ToRFC1459_eq]

theorem Source_Equals_eq (a b : Option Source) : Fn.Source_Equals a b = .ok (sourceEq a b) := by
  cases a with
  | none => cases b <;> rfl
  | some x =>
    cases b with
    | none => rfl
    | some y =>
      simp only [Fn.Source_Equals, sourceEq, gosem, Option.isNone_some, Option.isSome_some, Bool.false_and, Bool.and_false,
        Bool.or_false, Source_ID_eq, bne]
      cases sourceID x == sourceID y <;> cases x.ident == y.ident <;> cases x.host == y.host <;> rfl

theorem Event_Equals_loop1_eq (e ev : Event) (hlen : e.params.length = ev.params.length) :
    Fn.Event_Equals_loop1 (some e) (some ev) (fuelTo 0 (len e.params)) 0 =
      .ok (if e.params = ev.params then .done () else .ret false) := by
  have := forIdx_len e.params (fun fuel (_ : Unit) i => Fn.Event_Equals_loop1 (some e) (some ev) fuel i)
    (fun n _ => if e.params.drop n = ev.params.drop n then .done () else .ret false)
    (fun fuel _ => by
      simp only [gosem, Fn.Event_Equals_loop1, List.drop_length, List.drop_of_length_le (Nat.le_of_eq hlen.symm)])
    (fun fuel n _ a hlt ha ih => by
      obtain ⟨b, hb⟩ : ∃ b, ev.params[n]? = some b := ⟨_, List.getElem?_eq_getElem (hlen ▸ hlt)⟩
      simp only [gosem, Fn.Event_Equals_loop1, decide_lt_len hlt, atL_ofNat ha, atL_ofNat hb,
        drop_cons_of_getElem? ha, drop_cons_of_getElem? hb, List.cons.injEq]
      by_cases hab : a = b
      · simp only [hab, bne_self_eq_false, gosem, true_and, ih ()]
      · simp only [hab, bne_iff_ne.mpr hab, gosem, false_and])
    0 () (Nat.zero_le _)
  rwa [Int.natCast_zero, List.drop_zero, List.drop_zero] at this

theorem Event_Equals_eq (e ev : Event) : Fn.Event_Equals (some e) (some ev) = .ok (eventEquals e ev) := by
  unfold Fn.Event_Equals eventEquals
  simp only [gosem, Source_Equals_eq, Tags_Equals_eq]
  by_cases hc : e.command = ev.command
  · by_cases hlen : e.params.length = ev.params.length
    · simp only [gosem, hc, bne_self_eq_false, Bool.or_false, Event_Equals_loop1_eq e ev hlen,
        show (len e.params != len ev.params) = false from bne_eq_false_iff_eq.mpr (by rw [len, len, hlen])]
      by_cases hp : e.params = ev.params
      · simp only [hp, if_true, true_and, decide_true, Bool.true_and]
        cases sourceEq e.source ev.source <;> cases tagsEquals e.tags ev.tags <;> rfl
      · simp only [hp, if_false, and_false, decide_false, Bool.false_and]
    · have hp : e.params ≠ ev.params := fun h => hlen (by rw [h])
      simp only [gosem, hc, bne_self_eq_false, Bool.false_or,
        show (len e.params != len ev.params) = true from bne_iff_ne.mpr (fun h => hlen (Int.ofNat_inj.mp h)), hp,
        and_false, decide_false, Bool.false_and]
  · simp only [gosem, bne_iff_ne.mpr hc, Bool.true_or, hc, false_and, decide_false, Bool.false_and]

/-- Go: `e.Equals(ev)` reads `e.Command` and `ev.Command` first, so a nil receiver or a nil argument is a nil-pointer
    PANIC (there is no nil guard in event.go's `Equals`, unlike `(*Source).Equals`). -/
theorem Event_Equals_nil_left (x : Option Event) : Fn.Event_Equals none x = .error .nilDeref := rfl

theorem Event_Equals_nil_right (e : Event) : Fn.Event_Equals (some e) none = .error .nilDeref := rfl

theorem Event_String_eq (e : Event) : Fn.Event_String (some e) = .ok (eventBytes e) := by
  simp only [gosem, Fn.Event_String, Event_Bytes_eq]

theorem Event_String_nil : Fn.Event_String none = .error .nilDeref := rfl

theorem Source_Copy_nil : Fn.Source_Copy none = .ok none := rfl

theorem Source_Copy_opt (s : Option Source) : Fn.Source_Copy s = .ok s := by
  rcases s with _ | ⟨_, _, _⟩ <;> rfl

/-- What `Copy` builds from the tags: a fresh map filled key by key, in the order the keys are visited. -/
def tagsCopy (m : Tags) : Tags :=
  (AMap.keys m).foldl (fun acc k => AMap.set acc k ((AMap.get? m k).getD [])) []

theorem Event_Copy_loop1_eq (ev : Event) (src : Option Source) (cmd : Bytes) (ps : List Bytes) :
    ∀ (fuel : Nat) (keys : List Bytes) (t0 : Tags), keys.length < fuel →
    Fn.Event_Copy_loop1 (some ev) fuel keys (some ⟨some t0, src, cmd, ps⟩) =
      .ok (.done (some ⟨some (keys.foldl (fun acc k => AMap.set acc k (mapGet ev.tags k)) t0), src, cmd, ps⟩))
  | 0, _, _, h => by omega
  | fuel + 1, [], _, _ => rfl
  | fuel + 1, k :: ks, t0, h => by
    simp only [gosem, Fn.Event_Copy_loop1, mapSet_some, List.foldl_cons,
      Event_Copy_loop1_eq ev src cmd ps fuel ks _ (Nat.lt_of_succ_lt_succ h)]

theorem Event_Copy_nil : Fn.Event_Copy none = .ok none := rfl

theorem Event_Copy_go (e : Event) :
    Fn.Event_Copy (some e) = .ok (some { e with tags := e.tags.map tagsCopy }) := by
  obtain ⟨tags, source, command, params⟩ := e
  unfold Fn.Event_Copy
  cases source <;> simp only [gosem, Option.isNone_some, Option.isSome_none, Option.isSome_some, Source_Copy_opt] <;>
    cases params <;>
    simp only [gosem, sliceIsNil, List.isEmpty_nil, List.isEmpty_cons, makeA_len, copyA_replicate] <;>
    cases tags <;>
    simp only [gosem, Option.isSome_none, Option.isSome_some, mapKeys, mapGet, Option.map_none, Option.map_some, tagsCopy,
      Event_Copy_loop1_eq _ _ _ _ _ _ _ (Nat.lt_succ_self _)]

theorem tagsCopy_aux (m : Tags) (hnd : (AMap.keys m).Nodup) : ∀ (rest pre : Tags), m = pre ++ rest →
    (AMap.keys rest).foldl (fun acc k => AMap.set acc k ((AMap.get? m k).getD [])) pre = m
  | [], pre, hm => by rw [hm, List.append_nil]; rfl
  | (k, v) :: r, pre, hm => by
    have hk : k ∉ AMap.keys pre := by
      rw [hm, AMap.keys, List.map_append, List.map_cons] at hnd
      exact fun h => (List.nodup_append.mp hnd).2.2 k h k List.mem_cons_self rfl
    have hset : AMap.set pre k v = pre ++ [(k, v)] := if_neg (mt (InvBase.any_key_iff pre k).mp hk)
    rw [InvBase.keys_cons, List.foldl_cons,
      InvBase.mem_get? hnd (by rw [hm]; exact List.mem_append_right _ List.mem_cons_self), Option.getD_some, hset]
    exact tagsCopy_aux m hnd r (pre ++ [(k, v)]) (by rw [hm, List.append_assoc]; rfl)

/-- The representation invariant of a Go map: the association list has unique keys. -/
def tagsUnique (t : Option Tags) : Prop := ∀ m, t = some m → (AMap.keys m).Nodup

theorem Event_Copy_eq (e : Event) (h : tagsUnique e.tags) : Fn.Event_Copy (some e) = .ok (some e) := by
  rw [Event_Copy_go]
  obtain ⟨tags, source, command, params⟩ := e
  cases tags with
  | none => rfl
  | some m => rw [Option.map_some, show tagsCopy m = m from tagsCopy_aux m (h m rfl) m [] rfl]

/-- The last parameter of a piece: the text, in the CTCP wrapping if the message is one. -/
def wrapOf (ctcp : Option CTCPEvent) (piece : Bytes) : Bytes :=
  match ctcp with
  | some c => [ctcpDelim] ++ c.command ++ [SP] ++ piece ++ [ctcpDelim]
  | none => piece

theorem Event_split_loop1_eq (e : Event) (hp : e.params ≠ []) (hu : tagsUnique e.tags) (maxLength cmdLen : Int) (text : Bytes)
    (ctcp : Option CTCPEvent) (pieces : List Bytes) :
    Fn.Event_split_loop1 (some e) maxLength (some { e with source := none, params := e.params.dropLast ++ [[]] }) text cmdLen
        ctcp (pieces.length + 1) pieces [] =
      .ok (.done (pieces.map fun piece => some { e with params := e.params.dropLast ++ [wrapOf ctcp piece] })) := by
  have hset : ∀ x : Bytes, setA (e.params.dropLast ++ [([] : Bytes)]) (len e.params - 1) x = .ok (e.params.dropLast ++ [x]) :=
    fun x => (setA_last _ x (List.concat_ne_nil _ _) (by
      rw [len, len, List.length_append, List.length_dropLast, List.length_singleton,
        Nat.sub_add_cancel (List.length_pos_iff.mpr hp)])).trans (by rw [List.dropLast_concat])
  refine (forRange_append _ (fun piece => some { e with params := e.params.dropLast ++ [wrapOf ctcp piece] })
    (fun fuel s => rfl) (fun fuel piece ps s => ?_) _ pieces [] (Nat.lt_succ_self _)).trans (by rw [List.nil_append])
  have hcopy := Event_Copy_eq { e with source := none, params := e.params.dropLast ++ [[]] } hu
  cases ctcp <;>
    simp only [gosem, Fn.Event_split_loop1, Option.isSome_none, Option.isSome_some, hcopy, hset, wrapOf,
      show strOfByte Fn.ctcpDelim = [ctcpDelim] from rfl, show strOfByte Fn.eventSpace = [SP] from rfl]

theorem Event_split_eq (isURL : Bytes → Bool) (e : Event) (hu : tagsUnique e.tags) (maxLength : Int) :
    Fn.Event_split isURL (some e) maxLength = .ok ((eventSplit isURL e maxLength).map some) := by
  unfold Fn.Event_split eventSplit
  simp only [gosem, show Fn.PRIVMSG = PRIVMSG from rfl, show Fn.NOTICE = NOTICE from rfl, Event_Copy_eq e hu,
    Event_LenOpts_eq, Event_Last_eq, eventLast, Event_IsCTCP_eq, isCTCP,
    show decide (len e.params < 1) = decide (e.params.length < 1) from decide_eq_decide.mpr Int.ofNat_lt]
  by_cases h1 : e.params.length < 1
  · simp only [h1, decide_true, Bool.true_or, if_true, List.map_cons, List.map_nil]
  have hp : e.params ≠ [] := fun h0 => h1 (by rw [h0]; exact Nat.zero_lt_one)
  simp only [h1, decide_false, Bool.false_or]
  cases (e.command != PRIVMSG && e.command != NOTICE) with
  | true => simp only [if_true, List.map_cons, List.map_nil]
  | false =>
    simp only [gosem, decide_eq_true_eq, setA_last e.params ([] : Bytes) hp rfl]
    generalize ((eventLen { e with source := none } : Nat) : Int) = L0
    generalize ((eventLen { e with source := none, params := e.params.dropLast ++ [[]] } : Nat) : Int) = L
    by_cases h2 : L0 < maxLength
    · simp only [h2, if_true, List.map_cons, List.map_nil]
    simp only [h2, if_false]
    cases decodeCTCP e with
    | none =>
      simp only [gosem, Option.isSome_none]
      by_cases h3 : L > maxLength
      · simp only [h3, if_true, List.map_cons, List.map_nil]
      · simp only [gosem, h3, if_false, splitMessageGo, if_pos (Int.sub_nonneg.mpr (Int.not_lt.mp h3)),
          Event_split_loop1_eq e hp hu, List.map_map, Function.comp_def, wrapOf]
    | some c =>
      simp only [gosem, Option.isSome_some, len, Int.natCast_add, show ((4 : Nat) : Int) = 4 from rfl,
        show (e.params.getLastD [] == ([] : Bytes)) = (e.params.getLastD []).isEmpty from by
          cases e.params.getLastD [] <;> rfl]
      cases (e.params.getLastD []).isEmpty with
      | true => simp only [if_true, List.map_cons, List.map_nil]
      | false =>
        simp only [gosem]
        by_cases h3 : L > maxLength - ((c.command.length : Int) + 4)
        · simp only [h3, if_true, List.map_cons, List.map_nil]
        · simp only [gosem, h3, if_false, splitMessageGo, if_pos (Int.sub_nonneg.mpr (Int.not_lt.mp h3)),
            Event_split_loop1_eq e hp hu, List.map_map, Function.comp_def, wrapOf]

end Girc.Proofs.Trans
