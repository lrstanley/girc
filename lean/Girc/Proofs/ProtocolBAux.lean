import Girc.Model.Run
import Girc.Model.Sts
import Girc.Proofs.AMapLemmas
/-
  Normal forms shared by the protocol, invariant and simulation proofs: keys of `possibleCaps`, `handleCAP`
  as a table over the kind of CAP line (`handleCAP_eq`) with its ACK branch (`ackRes`), the cases of the
  CTCP auto reply (`ctcpCall_cases`), and `handleEvent` for a command that is neither PRIVMSG nor NOTICE.
-/
namespace Girc.Proofs.ProtocolBAux
open Girc Girc.Model Girc.Proofs.InvBase

theorem mem_keys_foldl_set {α β : Type} (f : α → Bytes) (g : α → β) (l : List α) (init : AMap β) (k : Bytes) :
    k ∈ AMap.keys (l.foldl (fun o x => AMap.set o (f x) (g x)) init) ↔ k ∈ AMap.keys init ∨ k ∈ l.map f := by
  induction l generalizing init with
  | nil => simp
  | cons x xs ih =>
    rw [List.foldl_cons, ih, mem_keys_set, List.map_cons, List.mem_cons, or_comm (a := k = f x), or_assoc]

theorem mem_keys_ite_set {β : Type} (c : Prop) [Decidable c] (m : AMap β) (k k' : Bytes) (v : β) :
    k' ∈ AMap.keys (if c then AMap.set m k v else m) ↔ (k' = k ∧ c) ∨ k' ∈ AMap.keys m := by
  by_cases h : c
  · rw [if_pos h, mem_keys_set]; simp only [h, and_true]
  · rw [if_neg h]; simp only [h, and_false, false_or]

theorem keys_nil {β : Type} : AMap.keys ([] : AMap β) = [] := rfl

theorem mem_keys_possibleCaps (cfg : Cfg) (k : Bytes) :
    k ∈ AMap.keys (possibleCaps cfg) ↔
      (k ∈ builtinCaps ∨ k ∈ AMap.keys cfg.supportedCaps ∨ (k = sSasl ∧ cfg.sasl.isSome) ∨
       (k = sSts ∧ cfg.disableSTS = false ∧ cfg.ssl = false ∧ ¬(cfg.stsRecentlyFailed = true ∧ cfg.disableSTSFallback = false))) := by
  -- the two nested tests around the `sts` entry are one: it is set iff the outer holds and the inner fails
  have hsts : ∀ o : AMap (List Bytes),
      (if (!cfg.disableSTS && !cfg.ssl) = true then
        (if (cfg.stsRecentlyFailed && !cfg.disableSTSFallback) = true then o else AMap.set o sSts []) else o) =
      if cfg.disableSTS = false ∧ cfg.ssl = false ∧ ¬(cfg.stsRecentlyFailed = true ∧ cfg.disableSTSFallback = false)
        then AMap.set o sSts [] else o := by
    intro o
    cases cfg.disableSTS <;> cases cfg.ssl <;> cases cfg.stsRecentlyFailed <;> cases cfg.disableSTSFallback <;> rfl
  unfold possibleCaps
  dsimp only
  rw [mem_keys_foldl_set (fun k => k) (fun _ => ([] : List Bytes)),
      mem_keys_foldl_set (fun p : Bytes × List Bytes => p.1) (fun p => p.2), hsts, mem_keys_ite_set, mem_keys_ite_set,
      List.map_id', show cfg.supportedCaps.map (fun p => p.1) = AMap.keys cfg.supportedCaps from rfl, keys_nil]
  simp only [List.not_mem_nil, or_false]
  constructor
  · rintro (((h | h) | h) | h)
    · exact .inr (.inr (.inr h))
    · exact .inr (.inr (.inl h))
    · exact .inr (.inl h)
    · exact .inl h
  · rintro (h | h | h | h)
    · exact .inr h
    · exact .inl (.inr h)
    · exact .inl (.inl (.inr h))
    · exact .inl (.inl (.inl h))


def isDel (e : Event) : Bool := e.params.length ≥ 2 && e.params[1]? = some cDEL
def isNak (e : Event) : Bool := e.params.length ≥ 2 && e.params[1]? = some cNAK
def isLs (e : Event) : Bool := e.params.length ≥ 3 && (e.params[1]? = some cLS || e.params[1]? = some cNEW)
def isAck (e : Event) : Bool := e.params.length = 3 && e.params[1]? = some cACK

theorem ls_not_ack (e : Event) (h : isLs e = true) : isAck e = false := by
  unfold isLs at h
  unfold isAck
  simp only [Bool.and_eq_true, Bool.or_eq_true, decide_eq_true_eq] at h
  obtain ⟨_, h | h⟩ := h <;> simp [h] <;> intro _ <;> decide

def ackTail (cfg : Cfg) (st : St) : St × List Out :=
  match AMap.get? st.enabledCap sSasl, cfg.sasl with
  | some _, some m => ({ st with tmpCap := [] }, [.write { command := cAUTHENTICATE, params := [m.method] }])
  | _, _ => ({ st with tmpCap := [] }, [.write capEnd])

def ackRes (cfg : Cfg) (st : St) (last : Bytes) : St × List Out :=
  let st := { st with enabledCap := capAck st.tmpCap st.enabledCap (splitOnByte SP last) }
  match AMap.get? st.enabledCap sSts with
  | none => ackTail cfg st
  | some v =>
    if cfg.disableSTS then ackTail cfg st
    else match (stsOnAck cfg st.sts v).2 with
      | .abort => ({ st with sts := (stsOnAck cfg st.sts v).1 }, [.inject { command := cERROR, params := [sStsInvalid] }])
      | .upgrade => ({ st with sts := (stsOnAck cfg st.sts v).1 }, [.close])
      | .continue_ => ackTail cfg { st with sts := (stsOnAck cfg st.sts v).1 }

theorem handleCAP_eq (cfg : Cfg) (st : St) (e : Event) :
    handleCAP cfg st e =
      if isDel e then
        ({ st with enabledCap := (parseCap e.last).foldl (fun en p => AMap.erase en p.1) st.enabledCap }, [])
      else if isNak e then (st, [.write capEnd])
      else if isLs e then
        (let t := capCollect (possibleCaps cfg) st.tmpCap (parseCap e.last)
         ({ st with tmpCap := t },
          if e.params.length = 3 then
            (if t.isEmpty then [Out.write capEnd]
             else [Out.write { command := cCAP, params := [cREQ, joinWith [SP] (sortBytes (AMap.keys t))] }])
          else []))
      else if isAck e then ackRes cfg st e.last
      else (st, []) := by
  have hla := ls_not_ack e
  unfold isDel isNak isLs isAck at *
  unfold handleCAP
  cases hd : (decide (e.params.length ≥ 2) && decide (e.params[1]? = some cDEL))
  case true => simp only [hd, ↓reduceIte]; rfl
  cases hn : (decide (e.params.length ≥ 2) && decide (e.params[1]? = some cNAK))
  case true => simp only [hd, hn, Bool.false_eq_true, ↓reduceIte]
  cases hl : (decide (e.params.length ≥ 3) && (decide (e.params[1]? = some cLS) || decide (e.params[1]? = some cNEW)))
  case true =>
    simp only [hd, hn, hl, hla hl, Bool.false_eq_true, ↓reduceIte]
    by_cases h3 : e.params.length = 3
    · by_cases he : (capCollect (possibleCaps cfg) st.tmpCap (parseCap (e.params.getLastD []))).isEmpty = true
      · simp only [h3, he, Event.last, ↓reduceIte]
      · simp only [h3, he, Event.last, Bool.false_eq_true, ↓reduceIte]
    · simp only [h3, Event.last, Bool.false_eq_true, ↓reduceIte]
  cases ha : (decide (e.params.length = 3) && decide (e.params[1]? = some cACK))
  case false => simp only [hd, hn, hl, ha, Bool.false_eq_true, ↓reduceIte]
  simp only [hd, hn, hl, ha, Bool.false_eq_true, ↓reduceIte]
  unfold ackRes
  simp only [Event.last]
  generalize capAck st.tmpCap st.enabledCap (splitOnByte SP (e.params.getLastD [])) = en
  cases hg : AMap.get? en sSts with
  | none => rfl
  | some v =>
    dsimp only
    cases hdis : cfg.disableSTS
    · cases hact : (stsOnAck cfg st.sts v).2 <;> rfl
    · rfl

theorem mem_keys_capCollect (possible : AMap (List Bytes)) (tmp caps : AMap CapVal) (k : Bytes)
    (h : k ∈ AMap.keys (capCollect possible tmp caps)) :
    k ∈ AMap.keys tmp ∨ (k ∈ AMap.keys caps ∧ AMap.contains possible k = true) := by
  unfold capCollect at h
  induction caps generalizing tmp with
  | nil => left; simpa using h
  | cons p ps ih =>
    rw [List.foldl_cons] at h
    have hk : AMap.keys (p :: ps) = p.1 :: AMap.keys ps := rfl
    rw [hk]
    rcases ih _ h with h1 | ⟨h1, h2⟩
    · by_cases hc : AMap.contains possible p.1 = true
      · rw [if_pos hc, mem_keys_set] at h1
        rcases h1 with h1 | h1
        · subst h1; right; exact ⟨List.mem_cons_self, hc⟩
        · left; exact h1
      · rw [if_neg hc] at h1; left; exact h1
    · right; exact ⟨List.mem_cons_of_mem _ h1, h2⟩

theorem ackTail_fst (cfg : Cfg) (st : St) : (ackTail cfg st).1 = { st with tmpCap := [] } := by
  unfold ackTail; split <;> rfl

theorem ackTail_snd (cfg : Cfg) (st : St) :
    (ackTail cfg st).2 = [Out.write capEnd] ∨
    ∃ m, cfg.sasl = some m ∧ (ackTail cfg st).2 = [Out.write { command := cAUTHENTICATE, params := [m.method] }] := by
  unfold ackTail
  split
  · rename_i m h1 h2; right; exact ⟨m, h2, rfl⟩
  · left; rfl

theorem ackRes_cases (cfg : Cfg) (st : St) (last : Bytes) :
    (∃ sts', (cfg.disableSTS = true → sts' = st.sts) ∧
        ackRes cfg st last = ackTail cfg { st with enabledCap := capAck st.tmpCap st.enabledCap (splitOnByte SP last), sts := sts' }) ∨
    (∃ v, AMap.get? (capAck st.tmpCap st.enabledCap (splitOnByte SP last)) sSts = some v ∧ cfg.disableSTS = false ∧ (stsOnAck cfg st.sts v).2 = .abort ∧
        ackRes cfg st last = ({ st with enabledCap := capAck st.tmpCap st.enabledCap (splitOnByte SP last), sts := (stsOnAck cfg st.sts v).1 },
          [.inject { command := cERROR, params := [sStsInvalid] }])) ∨
    (∃ v, AMap.get? (capAck st.tmpCap st.enabledCap (splitOnByte SP last)) sSts = some v ∧ cfg.disableSTS = false ∧ (stsOnAck cfg st.sts v).2 = .upgrade ∧
        ackRes cfg st last = ({ st with enabledCap := capAck st.tmpCap st.enabledCap (splitOnByte SP last), sts := (stsOnAck cfg st.sts v).1 }, [.close])) := by
  unfold ackRes
  simp only []
  cases hg : AMap.get? (capAck st.tmpCap st.enabledCap (splitOnByte SP last)) sSts with
  | none => left; exact ⟨st.sts, fun _ => rfl, rfl⟩
  | some v =>
    cases hdis : cfg.disableSTS
    · cases hact : (stsOnAck cfg st.sts v).2
      · left; refine ⟨(stsOnAck cfg st.sts v).1, by simp, ?_⟩
        simp [hact]
      · right; left; refine ⟨v, rfl, rfl, hact, ?_⟩
        simp [hact]
      · right; right; refine ⟨v, rfl, rfl, hact, ?_⟩
        simp [hact]
    · left; exact ⟨st.sts, fun _ => rfl, by simp⟩

/-- One more row of the default handler table in front of `rest`: still exactly one reply of a non-empty type. -/
theorem reply_ite (c : Prop) [Decidable c] (to t m : Bytes) (ht : t ≠ []) {rest : List Out}
    (h : ∃ typ msg, typ ≠ [] ∧ rest = [ctcpReply to typ msg]) :
    ∃ typ msg, typ ≠ [] ∧ (if c then [ctcpReply to t m] else rest) = [ctcpReply to typ msg] := by
  by_cases hc : c
  · exact ⟨t, m, ht, if_pos hc⟩
  · rw [if_neg hc]; exact h

/-- `CTCP.call` answers nothing, or one reply to the (folded) source of a request that is not an ACTION. -/
theorem ctcpCall_cases (cfg : Cfg) (ev : CTCPEvent) (time idle : Bytes) :
    ctcpCall cfg ev time idle = [] ∨
    (ev.reply = false ∧ ev.command ≠ tACTION ∧ ∃ src typ msg, ev.source = some src ∧ typ ≠ [] ∧
      ctcpCall cfg ev time idle = [ctcpReply (fold src.name) typ msg]) := by
  unfold ctcpCall
  dsimp only
  -- `split` is slow on this chain of tests against literals; `by_cases` with `if_pos`/`if_neg` is not
  by_cases hk : (![tPING, tPONG, tVERSION, tSOURCE, tTIME, tFINGER].contains ev.command) = true
  · rw [if_pos hk]
    by_cases ha : ev.command = tACTION
    · exact .inl (if_pos ha)
    · rw [if_neg ha]
      cases hsrc : ev.source with
      | none => exact .inl rfl
      | some src =>
        dsimp only
        by_cases hv : (!ev.reply && isValidNick (fold src.name)) = true
        · rw [if_pos hv]
          rw [Bool.and_eq_true, Bool.not_eq_true'] at hv
          exact .inr ⟨hv.1, ha, src, _, _, rfl, by decide, rfl⟩
        · exact .inl (if_neg hv)
  · rw [if_neg hk]
    have ha : ev.command ≠ tACTION := fun h => hk (by rw [h]; decide)
    cases hr : ev.reply with
    | true => exact .inl rfl
    | false =>
      cases hsrc : ev.source with
      | none => exact .inl rfl
      | some src =>
        dsimp only [Bool.false_eq_true, if_false]
        obtain ⟨typ, msg, ht, h⟩ := reply_ite (ev.command = tPING) (fold src.name) tPING ev.text (by decide)
          (reply_ite (ev.command = tPONG) _ tPONG [] (by decide)
          (reply_ite (ev.command = tVERSION) _ tVERSION _ (by decide)
          (reply_ite (ev.command = tSOURCE) _ tSOURCE _ (by decide)
          (reply_ite (ev.command = tTIME) _ tTIME _ (by decide) ⟨tFINGER, _, by decide, rfl⟩))))
        exact .inr ⟨rfl, ha, src, typ, msg, rfl, ht, h⟩

/-! ### events that are neither PRIVMSG nor NOTICE: no echo test, no CTCP -/

theorem decodeCTCP_none (e : Event) (h1 : e.command ≠ PRIVMSG) (h2 : e.command ≠ NOTICE) :
    decodeCTCP e = none := by
  have hc : (e.command != PRIVMSG && e.command != NOTICE) = true := by
    rw [Bool.and_eq_true, bne_iff_ne, bne_iff_ne]; exact ⟨h1, h2⟩
  unfold decodeCTCP
  rcases e.params with _ | ⟨a, _ | ⟨p, _ | ⟨c, r⟩⟩⟩
  · rfl
  · rfl
  · dsimp only
    rw [if_pos hc, ite_self]
  · rfl

/-- The state the command handlers see. -/
def tagged (cfg : Cfg) (cs : CState) (e : Event) : CState :=
  if cfg.disableTracking then cs else { cs with st := handleTags cs.st e }

theorem handleEvent_of_cmd (cfg : Cfg) (cs : CState) (e : Event) (time idle : Bytes)
    (h1 : e.command ≠ PRIVMSG) (h2 : e.command ≠ NOTICE) (cs' : CState) (outs : List Out)
    (h : handleCommand cfg (tagged cfg cs e) e = .ok (cs', outs)) :
    handleEvent cfg cs e time idle = .ok (cs', outs) := by
  unfold handleEvent
  simp only [show isEcho cfg cs.st e = false by simp [isEcho, h1, h2], decodeCTCP_none e h1 h2]
  unfold tagged at h
  simp [h, bind, Except.bind]

theorem flags_of_params (e : Event) (a b : Bytes) (rest : List Bytes) (hp : e.params = a :: b :: rest) :
    isDel e = decide (b = cDEL) ∧ isNak e = decide (b = cNAK) ∧
    isLs e = (decide (rest.length ≥ 1) && (decide (b = cLS) || decide (b = cNEW))) ∧
    isAck e = (decide (rest.length = 1) && decide (b = cACK)) := by
  unfold isDel isNak isLs isAck
  simp [hp]

theorem flags_of_short (e : Event) (h : e.params.length < 2) :
    isDel e = false ∧ isNak e = false ∧ isLs e = false ∧ isAck e = false := by
  unfold isDel isNak isLs isAck
  have h1 : ¬ e.params.length ≥ 2 := by omega
  have h2 : ¬ e.params.length ≥ 3 := by omega
  have h3 : ¬ e.params.length = 3 := by omega
  simp [h1, h2, h3]

end Girc.Proofs.ProtocolBAux
