import Girc.Proofs.TransBase
import Girc.Model.Format
/-
  Translator equivalence, format.go: TrimFmt, Fmt, StripRaw.  The scanner of `Fmt` is followed step by step against the
  model's `fmtScan`; the short final steps stand under the tie theorems in Props/TieFormat.lean.
-/
namespace Girc.Proofs.Trans
open Girc Girc.Model Girc.Go Girc.Gen

/-! `for color := range fmtColors` / `for code := range fmtCodes` range over PACKAGE-LEVEL maps: the order in which Go
visits the keys is an explicit parameter of the generated function (`fmtColors_order_`, `fmtCodes_order_`), and the
theorem holds for every pair of orders (the model `trimFmt` is parametrised by the order as well). -/

theorem replaceAllFuel_nil (old : Bytes) : ∀ (n : Nat) (s : Bytes), replaceAllFuel old [] n s = removeAllFuel old n s
  | 0, _ => rfl
  | _ + 1, [] => rfl
  | n + 1, b :: rest => by
    rw [replaceAllFuel, removeAllFuel, replaceAllFuel_nil old n, replaceAllFuel_nil old n, List.nil_append]

theorem replaceAll_token (s name : Bytes) :
    replaceAll s ((strOfByte 0x7B ++ name) ++ strOfByte 0x7D) [] = .ok (removeAll (token name) s) := by
  rw [replaceAll, replaceAllFuel_nil]
  rfl

theorem TrimFmt_loop1_eq (ks : List Bytes) (text : Bytes) :
    Fn.TrimFmt_loop1 (ks.length + 1) ks text = .ok (.done (trimFmt ks text)) :=
  forRange Fn.TrimFmt_loop1 _ (fun _ _ => rfl) (fun _ _ _ _ => by simp only [Fn.TrimFmt_loop1, gosem, replaceAll_token])
    ks text

theorem TrimFmt_loop2_eq (ks : List Bytes) (text : Bytes) :
    Fn.TrimFmt_loop2 (ks.length + 1) ks text = .ok (.done (trimFmt ks text)) :=
  forRange Fn.TrimFmt_loop2 _ (fun _ _ => rfl) (fun _ _ _ _ => by simp only [Fn.TrimFmt_loop2, gosem, replaceAll_token])
    ks text

theorem lookup_map_val {β γ : Type} (f : β → γ) (k : Bytes) : ∀ l : List (Bytes × β),
    List.lookup k (l.map (fun p => (p.1, f p.2))) = (List.lookup k l).map f
  | [] => rfl
  | (a, b) :: l => by
    simp only [List.map_cons, List.lookup_cons]
    cases k == a <;> simp [lookup_map_val f k l]

theorem fmtColors_perm : (Fn.fmtColors.map (fun p => (p.1, p.2.toNat))).Perm Spec.colors := by decide
theorem fmtColors_nodup : ((Fn.fmtColors.map (fun p => (p.1, p.2.toNat))).map (·.1)).Nodup := by decide
theorem fmtCodes_perm : Fn.fmtCodes.Perm Spec.codes := by decide
theorem fmtCodes_nodup : (Fn.fmtCodes.map (·.1)).Nodup := by decide

theorem fmtColors_digits : Fn.fmtColors.all (fun p => fmtD2 p.2 == twoDigits p.2.toNat) = true := by decide

theorem colors_lookup (k : Bytes) : (List.lookup k Fn.fmtColors).map Int.toNat = colorOf k := by
  unfold colorOf
  rw [← lookup_map_val Int.toNat k Fn.fmtColors]
  exact lookup_perm fmtColors_perm fmtColors_nodup k

theorem codes_lookup (k : Bytes) : List.lookup k Fn.fmtCodes = codeOf k :=
  lookup_perm fmtCodes_perm fmtCodes_nodup k

/-- `if color, ok := fmtColors[k]; ok { … fmt.Sprintf("%02d", color) }` against the model's `colorOf` / `twoDigits`. -/
theorem color_lookup (k : Bytes) :
    (pmHas Fn.fmtColors k, fmtD2 (pmGetI Fn.fmtColors k)) =
      (match colorOf k with
       | some c => (true, twoDigits c)
       | none => (false, fmtD2 0)) := by
  rw [← colors_lookup k]
  unfold pmHas pmGetI
  cases h : List.lookup k Fn.fmtColors with
  | none => rfl
  | some v =>
    have hm := InvBase.get?_some_mem h
    have hd := List.all_eq_true.mp fmtColors_digits (k, v) hm
    simp at hd
    simp [hd]

theorem code_lookup (k : Bytes) : (pmHas Fn.fmtCodes k, pmGetS Fn.fmtCodes k) = ((codeOf k).isSome, (codeOf k).getD []) := by
  unfold pmHas pmGetS; rw [codes_lookup]

/-- The replacement for a (lower-cased, comma-split) token: the tail of the model's `fmtRepl`. -/
def replOf (code sec : Bytes) : Bytes :=
  let repl := match colorOf code with
    | some c => 0x03 :: twoDigits c
    | none => []
  let repl := if !repl.isEmpty && !sec.isEmpty then
      match colorOf sec with
      | some c => repl ++ COMMA :: twoDigits c
      | none => repl
    else repl
  if repl.isEmpty then (codeOf code).getD [] else repl

theorem fmtRepl_replOf (p : Bytes) :
    fmtRepl p = (match indexOf COMMA (toLowerAscii p) with
                 | some com => replOf ((toLowerAscii p).take com) ((toLowerAscii p).drop (com + 1))
                 | none => replOf (toLowerAscii p) []) := by
  unfold fmtRepl replOf
  simp only []
  cases indexOf COMMA (toLowerAscii p) <;> rfl

theorem pmHas_colors (k : Bytes) : pmHas Fn.fmtColors k = (colorOf k).isSome := by
  have := congrArg Prod.fst (color_lookup k)
  cases h : colorOf k <;> simp [h] at this ⊢ <;> exact this

theorem fmtD2_colors (k : Bytes) (c : Nat) (h : colorOf k = some c) : fmtD2 (pmGetI Fn.fmtColors k) = twoDigits c := by
  have := congrArg Prod.snd (color_lookup k)
  simpa [h] using this

theorem pmHas_codes (k : Bytes) : pmHas Fn.fmtCodes k = (codeOf k).isSome := congrArg Prod.fst (code_lookup k)
theorem pmGetS_codes (k : Bytes) : pmGetS Fn.fmtCodes k = (codeOf k).getD [] := congrArg Prod.snd (code_lookup k)

theorem twoDigits_ne (c : Nat) : (0x03 :: twoDigits c != ([] : Bytes)) = true := rfl

/-- The consumed prefix of `text` for a scanner state. -/
def fmtPend : Option Bytes → Bytes
  | none => []
  | some p => LBRACE :: p

/-- The value of the Go variable `last` for a scanner state (`out` = the text left of the pending brace). -/
def fmtLast (out : Bytes) : Option Bytes → Int
  | none => -1
  | some _ => out.length

theorem inner_cond (b : UInt8) :
    ((b != 0x2C) && (decide (b < 0x41) || decide (b > 0x5A)) && (decide (b < 0x61) || decide (b > 0x7A))) = !fmtInner b :=
  (Bool.not_not _).symm

theorem length_lt_append_cons {α : Type} (A : List α) (b : α) (C : List α) : A.length < (A ++ b :: C).length := by
  rw [List.length_append, List.length_cons]; omega

theorem Fmt_step_open (fuel : Nat) (A rest : Bytes) (last : Int) :
    Fn.Fmt_loop1 (fuel + 1) (A ++ LBRACE :: rest) last A.length =
      Fn.Fmt_loop1 fuel (A ++ LBRACE :: rest) A.length ((A.length : Int) + 1) := by
  rw [Fn.Fmt_loop1]
  simp only [↓reduceIte, gosem, decide_lt_len (length_lt_append_cons A _ rest), atI_ofNat (getElem?_append_cons A _ rest),
    show (LBRACE == 123) = true from rfl]

theorem Fmt_step_plain (fuel : Nat) (A rest : Bytes) (b : Byte) (hL : b ≠ LBRACE) :
    Fn.Fmt_loop1 (fuel + 1) (A ++ b :: rest) (-1) A.length = Fn.Fmt_loop1 fuel (A ++ b :: rest) (-1) ((A.length : Int) + 1) := by
  rw [Fn.Fmt_loop1]
  simp only [↓reduceIte, gosem, decide_lt_len (length_lt_append_cons A _ rest), atI_ofNat (getElem?_append_cons A _ rest),
    show (b == 123) = false from beq_false_of_ne hL, show decide ((-1 : Int) > -1) = false from rfl, Bool.and_false]

theorem Fmt_step_inner (fuel : Nat) (A rest : Bytes) (b : Byte) (last : Int) (hL : b ≠ LBRACE) (hR : b ≠ RBRACE)
    (hlast : last > -1) :
    Fn.Fmt_loop1 (fuel + 1) (A ++ b :: rest) last A.length =
      Fn.Fmt_loop1 fuel (A ++ b :: rest) (if fmtInner b then last else -1) ((A.length : Int) + 1) := by
  rw [Fn.Fmt_loop1]
  simp only [↓reduceIte, gosem, decide_lt_len (length_lt_append_cons A _ rest), atI_ofNat (getElem?_append_cons A _ rest),
    show (b == 123) = false from beq_false_of_ne hL, show (b == 125) = false from beq_false_of_ne hR, Bool.false_and,
    decide_eq_true hlast, inner_cond]
  cases fmtInner b <;> rfl

theorem Fmt_step_close (fuel : Nat) (out p rest : Bytes) :
    Fn.Fmt_loop1 (fuel + 1) (out ++ LBRACE :: p ++ RBRACE :: rest) out.length (out ++ LBRACE :: p).length =
      Fn.Fmt_loop1 fuel (out ++ fmtRepl p ++ rest) (-1) (out ++ fmtRepl p).length := by
  have s0 : sliceI (out ++ LBRACE :: p ++ RBRACE :: rest) ((out.length : Int) + 1) ((out ++ LBRACE :: p).length : Int) = .ok p := by
    have := sliceI_append_mid (out ++ [LBRACE]) p (RBRACE :: rest) (lo := (out.length : Int) + 1)
      (hi := ((out ++ LBRACE :: p).length : Int))
      (by simp only [List.length_append, List.length_singleton, Int.natCast_add, Int.natCast_one])
      (by simp only [List.length_append, List.length_cons, List.length_nil]; omega)
    rwa [List.append_assoc out, List.singleton_append] at this
  rw [Fn.Fmt_loop1]
  simp -zeta only [↓reduceIte, gosem, decide_lt_len (length_lt_append_cons (out ++ LBRACE :: p) _ rest),
    atI_ofNat (getElem?_append_cons (out ++ LBRACE :: p) _ rest),
    show (RBRACE == 123) = false from rfl, show (RBRACE == 125) = true from rfl,
    show decide ((out.length : Int) > -1) = true from decide_eq_true (by omega), Bool.and_self, s0]
  extract_lets code empty com neg1 jpK jpR
  have hjpK (R : Bytes) : jpK () R = Fn.Fmt_loop1 fuel (out ++ R ++ rest) (-1) (out ++ R).length := by
    have s1 : sliceI (out ++ LBRACE :: p ++ RBRACE :: rest) 0 (out.length : Int) = .ok out := by
      rw [List.append_assoc]; exact sliceI_append_left out _
    have s2 : sliceI (out ++ LBRACE :: p ++ RBRACE :: rest) (((out ++ LBRACE :: p).length : Int) + 1)
        (len (out ++ LBRACE :: p ++ RBRACE :: rest)) = .ok rest := by
      rw [List.append_cons]
      exact sliceI_append_right _ rest (by simp only [List.length_append, List.length_singleton, Int.natCast_add, Int.natCast_one])
    simp only [jpK, gosem, s1, s2, neg1, Int.sub_add_cancel]
    rfl
  have hjpR (code sec : Bytes) : jpR () code sec = jpK () (replOf code sec) := by
    simp only [jpR, replOf, pmHas_colors, pmHas_codes, pmGetS_codes, empty]
    cases hc1 : colorOf code with
    | none =>
      simp only [Option.isSome_none, Bool.false_eq_true, if_false]
      cases codeOf code <;> simp
    | some c =>
      simp only [Option.isSome_some, if_true, fmtD2_colors code c hc1]
      cases sec with
      | nil => simp
      | cons x xs =>
        cases hc2 : colorOf (x :: xs) with
        | none => simp
        | some c' => simp [fmtD2_colors (x :: xs) c' hc2, COMMA]
  simp only [hjpR, hjpK, fmtRepl_replOf, com, code, indexI_single, show (0x2C : Byte) = COMMA from rfl]
  cases hidx : indexOf COMMA (toLowerAscii p) with
  | none => simp only [↓reduceIte, gosem, indexByteI_none hidx, show decide ((-1 : Int) > -1) = false from rfl, empty]
  | some k =>
    simp only [↓reduceIte, gosem, indexByteI_some hidx, show decide ((k : Int) > -1) = true from decide_eq_true (by omega),
      sliceI_before hidx, sliceI_after hidx]

theorem fmtScan_open (rest : Bytes) (pending : Option Bytes) :
    fmtScan (LBRACE :: rest) pending = fmtPend pending ++ fmtScan rest (some []) := by
  cases pending <;> rfl

theorem fmtScan_none {b : Byte} (hL : b ≠ LBRACE) (rest : Bytes) : fmtScan (b :: rest) none = b :: fmtScan rest none := by
  rw [fmtScan, if_neg hL]

theorem fmtScan_some {b : Byte} (hL : b ≠ LBRACE) (rest p : Bytes) :
    fmtScan (b :: rest) (some p) =
      if b = RBRACE then fmtRepl p ++ fmtScan rest none
      else if fmtInner b then fmtScan rest (some (p ++ [b]))
      else LBRACE :: p ++ b :: fmtScan rest none := by
  rw [fmtScan, if_neg hL]

theorem Fmt_reassoc {A A' : Bytes} {b : Byte} (h : A ++ [b] = A') (fuel : Nat) (rest : Bytes) (last : Int) :
    Fn.Fmt_loop1 fuel (A ++ b :: rest) last ((A.length : Int) + 1) = Fn.Fmt_loop1 fuel (A' ++ rest) last A'.length := by
  rw [← h, List.append_assoc, List.singleton_append, List.length_append, List.length_singleton, Int.natCast_add, Int.natCast_one]

/-- What `Fmt` keeps of its loop's result: the text; the position of the pending brace is scratch. -/
def fmtOut : LoopR (Bytes × Int) Bytes → Bytes
  | .done (t, _) => t
  | .ret t => t

theorem Fmt_loop1_eq : ∀ (fuel : Nat) (out : Bytes) (pending : Option Bytes) (rest : Bytes), rest.length < fuel →
    (Fn.Fmt_loop1 fuel (out ++ fmtPend pending ++ rest) (fmtLast out pending) (out ++ fmtPend pending).length).map fmtOut =
      .ok (out ++ fmtScan rest pending)
  | 0, _, _, _, h => by omega
  | fuel + 1, out, pending, [], _ => by
    rw [List.append_nil, Fn.Fmt_loop1]
    simp only [↓reduceIte, gosem, Except.map, fmtOut]
    cases pending <;> rfl
  | fuel + 1, out, pending, b :: rest, h => by
    have ih := fun out' pending' => Fmt_loop1_eq fuel out' pending' rest (Nat.lt_of_succ_lt_succ h)
    by_cases hL : b = LBRACE
    · subst hL
      rw [Fmt_step_open, Fmt_reassoc (A' := out ++ fmtPend pending ++ fmtPend (some [])) rfl]
      exact (ih (out ++ fmtPend pending) (some [])).trans (by rw [fmtScan_open, List.append_assoc])
    · cases pending with
      | none =>
        rw [show fmtLast out none = -1 from rfl, Fmt_step_plain _ _ _ _ hL,
          Fmt_reassoc (A' := out ++ [b] ++ fmtPend none) (by rw [fmtPend, List.append_nil, List.append_nil])]
        exact (ih (out ++ [b]) none).trans (by rw [fmtScan_none hL, List.append_assoc, List.singleton_append])
      | some p =>
        rw [fmtScan_some hL, show fmtLast out (some p) = (out.length : Int) from rfl]
        by_cases hR : b = RBRACE
        · subst hR
          have := ih (out ++ fmtRepl p) none
          rw [show fmtPend none = [] from rfl, List.append_nil] at this
          rw [show out ++ fmtPend (some p) = out ++ LBRACE :: p from rfl, Fmt_step_close]
          exact this.trans (by rw [if_pos rfl, List.append_assoc])
        · rw [Fmt_step_inner _ _ _ _ _ hL hR (by omega), if_neg hR]
          cases fmtInner b
          · rw [Fmt_reassoc (A' := out ++ fmtPend (some p) ++ [b] ++ fmtPend none) (List.append_nil _).symm]
            exact (ih _ none).trans (by
              simp only [fmtPend, Bool.false_eq_true, if_false, List.append_assoc, List.cons_append, List.nil_append])
          · rw [Fmt_reassoc (A' := out ++ fmtPend (some (p ++ [b]))) (List.append_assoc out (fmtPend (some p)) [b])]
            exact ih out (some (p ++ [b]))

/-! `reColor.ReplaceAllString(text, "")` is the trusted table entry `stripColor`; `for _, code := range fmtCodes` ranges over a
package-level map, so the order of its keys is a parameter.  Every value of the table is one byte, so each
`strings.ReplaceAll(text, code, "")` is a filter, and filters commute: the result is the model's `stripRaw` for every order
that visits exactly the keys of the table. -/

theorem replaceAllFuel_byte (c : Byte) : ∀ (n : Nat) (s : Bytes), s.length < n →
    replaceAllFuel [c] [] n s = s.filter (fun b => b != c)
  | 0, _, h => by omega
  | _ + 1, [], _ => rfl
  | n + 1, b :: rest, h => by
    rw [replaceAllFuel, isPrefixOf_singleton, List.filter_cons, List.nil_append]
    have ih := replaceAllFuel_byte c n rest (Nat.lt_of_succ_lt_succ h)
    by_cases hb : b = c
    · rw [hb, beq_self_eq_true, if_pos rfl, bne_self_eq_false, if_neg Bool.false_ne_true]; exact ih
    · rw [beq_false_of_ne (Ne.symm hb), if_neg Bool.false_ne_true, bne_iff_ne.mpr hb, if_pos rfl, ih]

theorem replaceAll_byte (s : Bytes) (c : Byte) : replaceAll s [c] [] = .ok (s.filter (fun b => b != c)) := by
  rw [replaceAll, List.isEmpty_cons, if_neg Bool.false_ne_true, replaceAllFuel_byte c _ s (Nat.lt_succ_self _)]

/-- Every key of the regenerated `fmtCodes` table reads as one of the documented `codeBytes`… -/
theorem fmtCodes_vals : Fn.fmtCodes.all (fun p => (Spec.codeBytes.map ([·])).contains (pmGetS Fn.fmtCodes p.1)) = true := by decide
/-- …and each of them is the value of some key. -/
theorem fmtCodes_onto : Spec.codeBytes.all (fun b => Fn.fmtCodes.any (fun p => pmGetS Fn.fmtCodes p.1 == [b])) = true := by decide

theorem pmGetS_single {k : Bytes} (hk : k ∈ Fn.fmtCodes.map (·.1)) : ∃ c ∈ Spec.codeBytes, pmGetS Fn.fmtCodes k = [c] := by
  obtain ⟨p, hp, rfl⟩ := List.mem_map.mp hk
  obtain ⟨c, hc, e⟩ := List.mem_map.mp (List.contains_iff_mem.mp (List.all_eq_true.mp fmtCodes_vals p hp))
  exact ⟨c, hc, e.symm⟩

theorem StripRaw_loop1_eq : ∀ (fuel : Nat) (ks : List Bytes) (text : Bytes), ks.length < fuel →
    (∀ k ∈ ks, k ∈ Fn.fmtCodes.map (·.1)) →
    Fn.StripRaw_loop1 fuel ks text =
      .ok (.done (text.filter (fun b => !(ks.any (fun k => pmGetS Fn.fmtCodes k == [b])))))
  | 0, _, _, h, _ => by omega
  | fuel + 1, [], text, _, _ =>
    congrArg (Except.ok ∘ LoopR.done) (List.filter_eq_self.mpr fun _ _ => rfl).symm
  | fuel + 1, k :: ks, text, h, hk => by
    obtain ⟨c, _, hc⟩ := pmGetS_single (hk k List.mem_cons_self)
    simp only [Fn.StripRaw_loop1, gosem, hc, replaceAll_byte,
      StripRaw_loop1_eq fuel ks _ (Nat.lt_of_succ_lt_succ h) (fun k' hk' => hk k' (List.mem_cons_of_mem _ hk')),
      List.filter_filter, List.any_cons]
    congr 2
    refine List.filter_congr fun b _ => ?_
    have e : (([c] : Bytes) == [b]) = (b == c) := by
      rw [Bool.beq_eq_decide_eq, Bool.beq_eq_decide_eq]
      exact decide_congr ⟨fun h => (List.cons.inj h).1.symm, fun h => h ▸ rfl⟩
    rw [e, Bool.not_or, Bool.and_comm]
    rfl

/-- `StripRaw` for every order that visits exactly the keys of `fmtCodes` (in particular every permutation). -/
theorem StripRaw_eq (o : List Bytes) (ho : ∀ k, k ∈ o ↔ k ∈ Fn.fmtCodes.map (·.1)) (text : Bytes) :
    Fn.StripRaw o text = .ok (stripRaw text) := by
  simp only [Fn.StripRaw, stripRaw, gosem, StripRaw_loop1_eq (o.length + 1) o _ (Nat.lt_succ_self _) fun k hk => (ho k).mp hk]
  congr 2
  funext b
  congr 1
  refine Bool.eq_iff_iff.mpr ⟨fun h => ?_, fun h => ?_⟩
  · obtain ⟨k, hk, hv⟩ := List.any_eq_true.mp h
    obtain ⟨c, hc, e⟩ := pmGetS_single ((ho k).mp hk)
    rw [e] at hv
    rw [← List.cons.inj (beq_iff_eq.mp hv) |>.1]
    exact List.contains_iff_mem.mpr hc
  · obtain ⟨p, hp, hv⟩ := List.any_eq_true.mp (List.all_eq_true.mp fmtCodes_onto b (List.contains_iff_mem.mp h))
    exact List.any_eq_true.mpr ⟨p.1, (ho p.1).mpr (List.mem_map_of_mem hp), hv⟩

end Girc.Proofs.Trans
