import Girc.Base.Utf8
import Girc.Base.GoLib
import Girc.Proofs.BytesLemmas
/-
  The UTF-8 model (`utf8Width`, `validUTF8`, `toValidUTF8`). `utf8Width_cases` says once what an accepted
  encoding looks like (a first byte, at most three continuation bytes, nothing behind them is looked at);
  everything about `utf8Width` follows from it. `Valid` is validity one rune at a time, without fuel
  (`validUTF8_iff`); the facts about concatenating, cutting and sanitising go by induction on it, the cut
  being allowed in front of any byte that is no continuation byte (`Valid.cut`).
-/
namespace Girc.Proofs.Utf8
open Girc Girc.Proofs.BytesLemmas

theorem isCont_iff (b : Byte) : isCont b = true ↔ 0x80 ≤ b ∧ b ≤ 0xBF := by
  simp only [isCont, Bool.and_eq_true, decide_eq_true_eq]

theorem utf8Width_ascii {x : Byte} (rest : Bytes) (hx : x < 0x80) : utf8Width (x :: rest) = some 1 :=
  if_pos hx

theorem of_ite_eq_some {c : Prop} [Decidable c] {a b : Nat} (h : (if c then some a else none) = some b) :
    c ∧ a = b := by
  by_cases hc : c
  · exact ⟨hc, Option.some.inj ((if_pos hc).symm.trans h)⟩
  · cases (if_neg hc).symm.trans h

theorem utf8Width_cases {s : Bytes} {w : Nat} (h : utf8Width s = some w) :
    ∃ b0 tl r, s = b0 :: (tl ++ r) ∧ w = tl.length + 1 ∧ tl.length ≤ 3 ∧
      (∀ x ∈ tl, 0x80 ≤ x ∧ x ≤ 0xBF) ∧ ∀ t, utf8Width (b0 :: (tl ++ t)) = some w := by
  cases s with
  | nil => cases h
  | cons b0 rest =>
    by_cases h1 : b0 < 0x80
    · cases (utf8Width_ascii rest h1).symm.trans h
      exact ⟨b0, [], rest, rfl, rfl, by decide, fun _ hx => (nomatch hx), fun t => utf8Width_ascii t h1⟩
    have hd : ∀ t, utf8Width (b0 :: t) = _ := fun t => if_neg h1
    rw [hd] at h
    by_cases h2 : (0xC2 ≤ b0 && b0 ≤ 0xDF) = true
    · rw [if_pos h2] at h
      match rest, h with
      | b1 :: r, h =>
        obtain ⟨hc, rfl⟩ := of_ite_eq_some h
        refine ⟨b0, [b1], r, rfl, rfl, Nat.le_succ_of_le (Nat.le_succ 1), ?_,
          fun t => (hd _).trans ((if_pos h2).trans (if_pos hc))⟩
        intro x hx
        cases List.mem_singleton.mp hx
        exact (isCont_iff _).mp hc
    rw [if_neg h2] at h
    by_cases h3 : (0xE0 ≤ b0 && b0 ≤ 0xEF) = true
    · rw [if_pos h3] at h
      match rest, h with
      | b1 :: b2 :: r, h =>
        obtain ⟨hc, rfl⟩ := of_ite_eq_some h
        refine ⟨b0, [b1, b2], r, rfl, rfl, Nat.le_succ 2, ?_,
          fun t => (hd _).trans ((if_neg h2).trans ((if_pos h3).trans (if_pos hc)))⟩
        simp only [Bool.and_eq_true, decide_eq_true_eq] at hc
        intro x hx
        simp only [List.mem_cons, List.not_mem_nil, or_false] at hx
        rcases hx with rfl | rfl
        · exact ⟨UInt8.le_trans (by split <;> decide) hc.1.1, UInt8.le_trans hc.1.2 (by split <;> decide)⟩
        · exact (isCont_iff _).mp hc.2
    rw [if_neg h3] at h
    by_cases h4 : (0xF0 ≤ b0 && b0 ≤ 0xF4) = true
    · rw [if_pos h4] at h
      match rest, h with
      | b1 :: b2 :: b3 :: r, h =>
        obtain ⟨hc, rfl⟩ := of_ite_eq_some h
        refine ⟨b0, [b1, b2, b3], r, rfl, rfl, Nat.le_refl 3, ?_,
          fun t => (hd _).trans ((if_neg h2).trans ((if_neg h3).trans ((if_pos h4).trans (if_pos hc))))⟩
        simp only [Bool.and_eq_true, decide_eq_true_eq] at hc
        intro x hx
        simp only [List.mem_cons, List.not_mem_nil, or_false] at hx
        rcases hx with rfl | rfl | rfl
        · exact ⟨UInt8.le_trans (by split <;> decide) hc.1.1.1, UInt8.le_trans hc.1.1.2 (by split <;> decide)⟩
        · exact (isCont_iff _).mp hc.1.2
        · exact (isCont_iff _).mp hc.2
    · rw [if_neg h4] at h; cases h

theorem utf8Width_bounds {s : Bytes} {w : Nat} (h : utf8Width s = some w) :
    1 ≤ w ∧ w ≤ 4 ∧ w ≤ s.length := by
  obtain ⟨b0, tl, r, rfl, rfl, hl, -, -⟩ := utf8Width_cases h
  simp only [List.length_cons, List.length_append]
  omega

theorem utf8Width_append {s : Bytes} {w : Nat} (t : Bytes) (h : utf8Width s = some w) :
    utf8Width (s ++ t) = some w := by
  obtain ⟨b0, tl, r, rfl, rfl, -, -, hpre⟩ := utf8Width_cases h
  rw [List.cons_append, List.append_assoc]
  exact hpre _

theorem utf8Width_of_append_cons {a b : Bytes} {c : Byte} {w : Nat} (ha : a ≠ [])
    (hc : ¬ (0x80 ≤ c ∧ c ≤ 0xBF)) (h : utf8Width (a ++ c :: b) = some w) :
    utf8Width a = some w ∧ w ≤ a.length := by
  obtain ⟨b0, tl, r, e, rfl, -, htl, hpre⟩ := utf8Width_cases h
  cases a with
  | nil => exact absurd rfl ha
  | cons x a =>
    obtain ⟨rfl, e'⟩ := List.cons.inj e
    obtain ⟨a', rfl, -⟩ := append_eq_append_cons (fun hm => hc (htl c hm)) e'.symm
    exact ⟨hpre a', by simp⟩

theorem utf8Width_append_ascii (a b : Bytes) (x : Byte) (hx : x < 0x80) (ha : a ≠ []) :
    utf8Width (a ++ x :: b) = utf8Width a := by
  cases hw : utf8Width a with
  | some w => exact utf8Width_append _ hw
  | none =>
    cases hw' : utf8Width (a ++ x :: b) with
    | none => rfl
    | some w =>
      have := (utf8Width_of_append_cons ha (fun h => absurd (UInt8.lt_of_lt_of_le hx h.1) (UInt8.lt_irrefl _)) hw').1
      rw [hw] at this; cases this

theorem validUTF8Fuel_nil (n : Nat) : validUTF8Fuel n [] = true := by
  cases n <;> rfl

theorem toValidUTF8Fuel_nil (r : Bytes) (n : Nat) (run : Bool) : toValidUTF8Fuel r n run [] = [] := by
  cases n <;> rfl

theorem length_drop_lt {s : Bytes} {w : Nat} (h : utf8Width s = some w) :
    (s.drop w).length < s.length := by
  have := utf8Width_bounds h
  simp only [List.length_drop]; omega

theorem validUTF8Fuel_eq : ∀ (n m : Nat) (s : Bytes), s.length ≤ n → s.length ≤ m →
    validUTF8Fuel n s = validUTF8Fuel m s
  | n, m, [], _, _ => by rw [validUTF8Fuel_nil, validUTF8Fuel_nil]
  | 0, _, _ :: _, h, _ => by simp at h
  | _, 0, _ :: _, _, h => by simp at h
  | n + 1, m + 1, b :: rest, hn, hm => by
    simp only [validUTF8Fuel]
    cases hw : utf8Width (b :: rest) with
    | none => rfl
    | some w =>
      have := length_drop_lt hw
      exact validUTF8Fuel_eq n m _ (by omega) (by omega)

theorem toValidUTF8Fuel_eq (r : Bytes) : ∀ (n m : Nat) (run : Bool) (s : Bytes), s.length ≤ n → s.length ≤ m →
    toValidUTF8Fuel r n run s = toValidUTF8Fuel r m run s
  | n, m, _, [], _, _ => by rw [toValidUTF8Fuel_nil, toValidUTF8Fuel_nil]
  | 0, _, _, _ :: _, h, _ => by simp at h
  | _, 0, _, _ :: _, _, h => by simp at h
  | n + 1, m + 1, run, b :: rest, hn, hm => by
    simp only [toValidUTF8Fuel]
    cases hw : utf8Width (b :: rest) with
    | none =>
      simp only
      rw [toValidUTF8Fuel_eq r n m true rest (by simp at hn; omega) (by simp at hm; omega)]
    | some w =>
      have := length_drop_lt hw
      simp only
      rw [toValidUTF8Fuel_eq r n m false _ (by omega) (by omega)]

theorem validUTF8_nil : validUTF8 [] = true := rfl

theorem validUTF8_of_width_some {s : Bytes} {w : Nat} (h : utf8Width s = some w) :
    validUTF8 s = validUTF8 (s.drop w) := by
  have hl := length_drop_lt h
  match s, h, hl with
  | b :: rest, h, hl =>
    unfold validUTF8
    simp only [List.length_cons, validUTF8Fuel, h]
    exact validUTF8Fuel_eq _ _ _ (by simp at hl ⊢; omega) (Nat.le_refl _)

theorem validUTF8_of_width_none {s : Bytes} (hs : s ≠ []) (h : utf8Width s = none) :
    validUTF8 s = false := by
  match s, hs, h with
  | b :: rest, _, h =>
    unfold validUTF8
    simp only [List.length_cons, validUTF8Fuel, h]

/-- `toValidUTF8` generalised over the `inRun` flag, with canonical fuel. -/
def tv (r : Bytes) (run : Bool) (s : Bytes) : Bytes := toValidUTF8Fuel r s.length run s

theorem toValidUTF8_eq_tv (r s : Bytes) : toValidUTF8 r s = tv r false s := rfl

@[simp] theorem tv_nil (r : Bytes) (run : Bool) : tv r run [] = [] := rfl

theorem tv_of_width_some (r : Bytes) (run : Bool) {s : Bytes} {w : Nat} (h : utf8Width s = some w) :
    tv r run s = s.take w ++ tv r false (s.drop w) := by
  have hl := length_drop_lt h
  match s, h, hl with
  | b :: rest, h, hl =>
    unfold tv
    simp only [List.length_cons, toValidUTF8Fuel, h]
    rw [toValidUTF8Fuel_eq r _ _ false _ (by simp at hl ⊢; omega) (Nat.le_refl _)]

theorem tv_of_width_none (r : Bytes) (run : Bool) {b : Byte} {rest : Bytes}
    (h : utf8Width (b :: rest) = none) :
    tv r run (b :: rest) = (if run then [] else r) ++ tv r true rest := by
  unfold tv
  simp only [List.length_cons, toValidUTF8Fuel, h]

theorem bytes_strong_induction {P : Bytes → Prop}
    (h : ∀ s, (∀ t : Bytes, t.length < s.length → P t) → P s) : ∀ s, P s := by
  intro s
  generalize hn : s.length = n
  induction n using Nat.strongRecOn generalizing s with
  | _ n ih => exact h s (fun t ht => ih t.length (hn ▸ ht) t rfl)

/-- Induction along the sanitiser: it either copies one encoding or drops one byte. -/
theorem tv_induction {P : Bool → Bytes → Prop} (hnil : ∀ run, P run [])
    (hsome : ∀ run s w, utf8Width s = some w → P false (s.drop w) → P run s)
    (hnone : ∀ run b rest, utf8Width (b :: rest) = none → P true rest → P run (b :: rest)) :
    ∀ run s, P run s := by
  intro run s
  induction s using bytes_strong_induction generalizing run with
  | _ s ih =>
    match s, ih with
    | [], _ => exact hnil run
    | b :: rest, ih =>
      cases hw : utf8Width (b :: rest) with
      | none => exact hnone run b rest hw (ih rest (Nat.lt_succ_self _) true)
      | some w => exact hsome run _ w hw (ih _ (length_drop_lt hw) false)

end Girc.Proofs.Utf8

namespace Girc.Proofs.RoundtripUtf8
open Girc Girc.Proofs.Utf8

/-- Fuel-free validity. -/
inductive Valid : Bytes → Prop
  | nil : Valid []
  | step (s : Bytes) (w : Nat) : utf8Width s = some w → Valid (s.drop w) → Valid s

theorem utf8Width_nil : utf8Width [] = none := rfl

theorem validUTF8_nil : validUTF8 [] = true := rfl

theorem validUTF8_iff (s : Bytes) : validUTF8 s = true ↔ Valid s := by
  constructor
  · induction s using bytes_strong_induction with
    | _ s ih =>
      intro hv
      by_cases hs : s = []
      · subst hs; exact Valid.nil
      · cases hw : utf8Width s with
        | none => rw [validUTF8_of_width_none hs hw] at hv; cases hv
        | some w =>
          rw [validUTF8_of_width_some hw] at hv
          exact Valid.step s w hw (ih _ (length_drop_lt hw) hv)
  · intro h
    induction h with
    | nil => rfl
    | step s w hw _ ih => rw [validUTF8_of_width_some hw]; exact ih

theorem Valid.append {a b : Bytes} (ha : Valid a) (hb : Valid b) : Valid (a ++ b) := by
  induction ha with
  | nil => exact hb
  | step a w hw _ ih =>
    refine Valid.step _ w (utf8Width_append b hw) ?_
    rw [List.drop_append_of_le_length (utf8Width_bounds hw).2.2]
    exact ih

theorem Valid.drop_prefix {a : Bytes} (ha : Valid a) : ∀ b, Valid (a ++ b) → Valid b := by
  induction ha with
  | nil => exact fun b h => h
  | step a w hw _ ih =>
    intro b hab
    have hw' := utf8Width_append b hw
    generalize hs : a ++ b = s at hab hw'
    cases hab with
    | nil => cases hw'
    | step _ w' hw'' hv' =>
      cases hw'.symm.trans hw''
      rw [← hs, List.drop_append_of_le_length (utf8Width_bounds hw).2.2] at hv'
      exact ih b hv'

theorem Valid.cut {s : Bytes} (hs : Valid s) :
    ∀ (a : Bytes) (c : Byte) (b : Bytes), s = a ++ c :: b → ¬ (0x80 ≤ c ∧ c ≤ 0xBF) → Valid a := by
  induction hs with
  | nil => intro a c b h; simp at h
  | step s w hw _ ih =>
    intro a c b e hc
    by_cases ha : a = []
    · subst ha; exact Valid.nil
    · subst e
      obtain ⟨hwa, hle⟩ := utf8Width_of_append_cons ha hc hw
      exact Valid.step a w hwa (ih (a.drop w) c b (List.drop_append_of_le_length hle) hc)

theorem valid_ascii : ∀ (s : Bytes), s.all (· < 0x80) = true → Valid s
  | [], _ => Valid.nil
  | c :: s, h => by
    simp only [List.all_cons, Bool.and_eq_true, decide_eq_true_eq] at h
    exact Valid.step (c :: s) 1 (utf8Width_ascii s h.1) (valid_ascii s h.2)

theorem valid_single (c : Byte) (hc : c < 0x80) : Valid [c] :=
  Valid.step [c] 1 (utf8Width_ascii [] hc) Valid.nil

end Girc.Proofs.RoundtripUtf8

namespace Girc.Proofs.Utf8
open Girc Girc.Proofs.RoundtripUtf8

theorem validUTF8_append (a b : Bytes) (ha : validUTF8 a = true) (hb : validUTF8 b = true) :
    validUTF8 (a ++ b) = true :=
  (validUTF8_iff _).mpr (((validUTF8_iff _).mp ha).append ((validUTF8_iff _).mp hb))

theorem validUTF8_append_of_valid_left (a b : Bytes) (ha : validUTF8 a = true) :
    validUTF8 (a ++ b) = validUTF8 b :=
  Bool.eq_iff_iff.mpr ⟨fun h => (validUTF8_iff _).mpr (((validUTF8_iff _).mp ha).drop_prefix b ((validUTF8_iff _).mp h)),
    validUTF8_append a b ha⟩

theorem validUTF8_ascii (s : Bytes) (h : s.all (· < 0x80) = true) : validUTF8 s = true :=
  (validUTF8_iff _).mpr (valid_ascii s h)

theorem validUTF8_append_ascii (a b : Bytes) (x : Byte) (hx : x < 0x80) :
    validUTF8 (a ++ x :: b) = (validUTF8 a && validUTF8 b) := by
  have hx' : ¬ (0x80 ≤ x ∧ x ≤ 0xBF) := fun h => absurd (UInt8.lt_of_lt_of_le hx h.1) (UInt8.lt_irrefl _)
  rw [Bool.eq_iff_iff, Bool.and_eq_true, validUTF8_iff, validUTF8_iff, validUTF8_iff]
  constructor
  · intro h
    have ha := h.cut a x b rfl hx'
    exact ⟨ha, (valid_single x hx).drop_prefix b (ha.drop_prefix _ h)⟩
  · exact fun h => h.1.append ((valid_single x hx).append h.2)

theorem toValidUTF8_append_of_valid_left (r a b : Bytes) (ha : validUTF8 a = true) :
    toValidUTF8 r (a ++ b) = a ++ toValidUTF8 r b := by
  show tv r false (a ++ b) = a ++ tv r false b
  have hv := (validUTF8_iff a).mp ha
  clear ha
  induction hv with
  | nil => rfl
  | step a w hw _ ih =>
    have hb := (utf8Width_bounds hw).2.2
    rw [tv_of_width_some r false (utf8Width_append b hw),
      List.take_append_of_le_length hb, List.drop_append_of_le_length hb,
      ih, ← List.append_assoc, List.take_append_drop]

theorem toValidUTF8_of_validUTF8 (r s : Bytes) (h : validUTF8 s = true) : toValidUTF8 r s = s := by
  simpa [toValidUTF8_eq_tv] using toValidUTF8_append_of_valid_left r s [] h

theorem tv_nil_sublist (run : Bool) (s : Bytes) : (tv [] run s).Sublist s := by
  induction run, s using tv_induction with
  | hnil run => exact List.Sublist.refl _
  | hsome run s w hw ih =>
    rw [tv_of_width_some [] run hw]
    have := (List.Sublist.refl (s.take w)).append ih
    rwa [List.take_append_drop] at this
  | hnone run b rest hw ih =>
    rw [tv_of_width_none [] run hw, show (if run = true then ([] : Bytes) else []) = [] by split <;> rfl]
    exact List.Sublist.cons _ ih

theorem toValidUTF8_nil_sublist (s : Bytes) : (toValidUTF8 [] s).Sublist s := tv_nil_sublist false s

theorem toValidUTF8_nil_length_le (s : Bytes) : (toValidUTF8 [] s).length ≤ s.length :=
  (toValidUTF8_nil_sublist s).length_le

theorem tv_append_ascii (r : Bytes) (run : Bool) (a b : Bytes) (x : Byte) (hx : x < 0x80) :
    tv r run (a ++ x :: b) = tv r run a ++ x :: tv r false b := by
  induction run, a using tv_induction with
  | hnil run =>
    rw [List.nil_append, tv_of_width_some r run (utf8Width_ascii b hx)]
    rfl
  | hsome run a w hw ih =>
    have hb := (utf8Width_bounds hw).2.2
    rw [tv_of_width_some r run (utf8Width_append _ hw), tv_of_width_some r run hw,
      List.take_append_of_le_length hb, List.drop_append_of_le_length hb, ih, List.append_assoc]
  | hnone run c a' hw ih =>
    have hE := utf8Width_append_ascii (c :: a') b x hx (List.cons_ne_nil _ _)
    rw [hw] at hE
    rw [List.cons_append] at hE ⊢
    rw [tv_of_width_none r run hE, tv_of_width_none r run hw, ih, List.append_assoc]

theorem toValidUTF8_append_ascii (r a b : Bytes) (x : Byte) (hx : x < 0x80) :
    toValidUTF8 r (a ++ x :: b) = toValidUTF8 r a ++ x :: toValidUTF8 r b :=
  tv_append_ascii r false a b x hx

theorem toValidUTF8_append_ascii' (r a b : Bytes) (x : Byte) (hx : x < 0x80) :
    toValidUTF8 r (a ++ [x] ++ b) = toValidUTF8 r a ++ [x] ++ toValidUTF8 r b := by
  simpa using toValidUTF8_append_ascii r a b x hx

end Girc.Proofs.Utf8

namespace Girc.Proofs.RoundtripUtf8
open Girc Girc.Proofs.Utf8

theorem validUTF8_cons_ascii (c : Byte) (b : Bytes) (hc : c < 0x80) : validUTF8 (c :: b) = validUTF8 b :=
  (validUTF8_append_ascii [] b c hc).trans (Bool.true_and _)

theorem validUTF8_ascii_append (a b : Bytes) (ha : a.all (· < 0x80) = true) :
    validUTF8 (a ++ b) = validUTF8 b :=
  validUTF8_append_of_valid_left a b (validUTF8_ascii a ha)

theorem validUTF8_append_lead (a r : Bytes) (hr : r.head?.all (· < 0x80) = true) :
    validUTF8 (a ++ r) = (validUTF8 a && validUTF8 r) := by
  cases r with
  | nil => rw [List.append_nil]; exact (Bool.and_true _).symm
  | cons c r =>
    have hc : c < 0x80 := of_decide_eq_true hr
    rw [validUTF8_append_ascii a r c hc, validUTF8_cons_ascii c r hc]

theorem validUTF8_joinWith (c : Byte) (hc : c < 0x80) : ∀ (items : List Bytes),
    validUTF8 (joinWith [c] items) = items.all validUTF8
  | [] => rfl
  | [p] => (Bool.and_true _).symm
  | p :: q :: ps => by
    show validUTF8 (p ++ [c] ++ joinWith [c] (q :: ps)) = _
    rw [List.append_assoc, List.singleton_append, validUTF8_append_ascii p _ c hc,
      validUTF8_joinWith c hc (q :: ps)]
    rfl

end Girc.Proofs.RoundtripUtf8

namespace Girc.Proofs.SplitUtf8
open Girc Girc.Proofs.Utf8 Girc.Proofs.RoundtripUtf8

/-- A byte that can start an encoding (ASCII or ≥ 0xC0). -/
def isLead (c : Byte) : Prop := c < 0x80 ∨ 0xC0 ≤ c

theorem not_tail_of_lead (c : UInt8) (h : c < 0x80 ∨ 0xC0 ≤ c) : ¬ (0x80 ≤ c ∧ c ≤ 0xBF) := fun hc =>
  h.elim (fun h1 => absurd (UInt8.lt_of_lt_of_le h1 hc.1) (UInt8.lt_irrefl _))
    (fun h2 => absurd (UInt8.le_trans h2 hc.2) (by decide))

theorem _root_.Girc.Proofs.RoundtripUtf8.Valid.cut_lead {s : Bytes} (hs : Valid s) :
    ∀ (a : Bytes) (c : Byte) (b : Bytes), s = a ++ c :: b → isLead c → Valid a :=
  fun a c b e hc => hs.cut a c b e (not_tail_of_lead c hc)

theorem _root_.Girc.Proofs.RoundtripUtf8.Valid.split_lead {a r : Bytes} (h : Valid (a ++ r))
    (hr : r = [] ∨ ∃ c r', r = c :: r' ∧ isLead c) : Valid a ∧ Valid r := by
  rcases hr with rfl | ⟨c, r', rfl, hc⟩
  · exact ⟨by simpa using h, Valid.nil⟩
  · have ha := h.cut_lead a c r' rfl hc
    exact ⟨ha, ha.drop_prefix _ h⟩

theorem _root_.Girc.Proofs.RoundtripUtf8.Valid.uncons {s : Bytes} (h : Valid s) (hs : s ≠ []) :
    ∃ w, utf8Width s = some w ∧ Valid (s.drop w) := by
  cases h with
  | nil => exact absurd rfl hs
  | step _ w hw hv => exact ⟨w, hw, hv⟩

theorem _root_.Girc.Proofs.RoundtripUtf8.Valid.rune {s : Bytes} {w : Nat} (hw : utf8Width s = some w) : Valid (s.take w) := by
  obtain ⟨b0, tl, r, rfl, rfl, -, -, hpre⟩ := utf8Width_cases hw
  have e : (b0 :: (tl ++ r)).take (tl.length + 1) = b0 :: tl := by simp
  rw [e]
  refine Valid.step _ (tl.length + 1) (by simpa using hpre []) ?_
  rw [List.drop_of_length_le (by simp)]
  exact Valid.nil

theorem tv_length_le (q : Byte) (run : Bool) (s : Bytes) : (tv [q] run s).length ≤ s.length := by
  induction run, s using tv_induction with
  | hnil run => exact Nat.le_refl _
  | hsome run s w hw ih =>
    have hb := utf8Width_bounds hw
    rw [tv_of_width_some _ _ hw]
    simp only [List.length_append, List.length_take, List.length_drop] at ih ⊢
    omega
  | hnone run b rest hw ih =>
    rw [tv_of_width_none _ _ hw]
    simp only [List.length_append, List.length_cons]
    split <;> simp <;> omega

theorem toValidUTF8_length_le (q : Byte) (s : Bytes) : (toValidUTF8 [q] s).length ≤ s.length :=
  tv_length_le q false s

theorem toValidUTF8_ne_nil (q : Byte) (s : Bytes) (hs : s ≠ []) : toValidUTF8 [q] s ≠ [] := by
  rw [toValidUTF8_eq_tv]
  match s, hs with
  | b :: rest, _ =>
    cases hw : utf8Width (b :: rest) with
    | some w =>
      have hb := utf8Width_bounds hw
      rw [tv_of_width_some _ _ hw]
      intro h
      have := congrArg List.length h
      simp only [List.length_append, List.length_take, List.length_nil] at this
      simp only [List.length_cons] at hb this
      omega
    | none =>
      rw [tv_of_width_none _ _ hw]
      simp

theorem mem_tv (q : Byte) (run : Bool) (s : Bytes) : ∀ x ∈ tv [q] run s, x ∈ s ∨ x = q := by
  induction run, s using tv_induction with
  | hnil run => exact fun x hx => nomatch hx
  | hsome run s w hw ih =>
    intro x hx
    rw [tv_of_width_some _ _ hw] at hx
    rcases List.mem_append.mp hx with hx | hx
    · exact Or.inl (List.mem_of_mem_take hx)
    · exact (ih x hx).imp_left List.mem_of_mem_drop
  | hnone run b rest hw ih =>
    intro x hx
    rw [tv_of_width_none _ _ hw] at hx
    rcases List.mem_append.mp hx with hx | hx
    · right
      cases run with
      | true => cases hx
      | false => exact List.mem_singleton.mp hx
    · exact (ih x hx).imp_left (List.mem_cons_of_mem _)

theorem mem_toValidUTF8 (q : Byte) (s : Bytes) : ∀ x ∈ toValidUTF8 [q] s, x ∈ s ∨ x = q :=
  mem_tv q false s

theorem valid_tv (q : Byte) (hq : q < 0x80) (run : Bool) (s : Bytes) : Valid (tv [q] run s) := by
  induction run, s using tv_induction with
  | hnil run => exact Valid.nil
  | hsome run s w hw ih =>
    rw [tv_of_width_some _ _ hw]
    exact (Valid.rune hw).append ih
  | hnone run b rest hw ih =>
    rw [tv_of_width_none _ _ hw]
    refine Valid.append ?_ ih
    split
    · exact Valid.nil
    · exact valid_single q hq

theorem valid_toValidUTF8 (q : Byte) (hq : q < 0x80) (s : Bytes) : Valid (toValidUTF8 [q] s) :=
  valid_tv q hq false s

theorem toValidUTF8_of_Valid (r s : Bytes) (h : Valid s) : toValidUTF8 r s = s :=
  toValidUTF8_of_validUTF8 r s ((validUTF8_iff _).mpr h)

end Girc.Proofs.SplitUtf8
