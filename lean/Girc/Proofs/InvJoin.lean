import Girc.Proofs.InvBase
/-
  JOIN and NAMES preserve the invariant without fault. Both end in the same step on the two maps: a (possibly
  new) user joins an existing channel (`invL_join_add`, an instance of `InvL.point`). `handleJOIN` and
  `namesEntry` are cut into named pieces (`ensureChannel`, `ensureUser`, `joinC`, `namesBody`) so that the step
  applies to them.
-/
namespace Girc.Proofs.InvJoin
open Girc Girc.Model Girc.Spec Girc.Proofs.InvBase

/-! ### `Channel.addUser` / `User.addChannel`: append and sort unless present -/

theorem mem_ite_appendSort (l : List Bytes) (y z : Bytes) :
    z ∈ (if l.contains y then l else appendSort l y) ↔ z = y ∨ z ∈ l := by
  split
  · next hc => exact ⟨Or.inr, fun h => h.elim (fun e => e ▸ (list_contains_iff_mem _ _).mp hc) id⟩
  · exact mem_appendSort l y z

theorem sorted_ite_appendSort {l : List Bytes} (y : Bytes)
    (h : sortedStrict l = true ∧ folded l = true) :
    sortedStrict (if l.contains (fold y) then l else appendSort l (fold y)) = true ∧
      folded (if l.contains (fold y) then l else appendSort l (fold y)) = true := by
  split
  · exact h
  · next hc =>
    exact ⟨sortedStrict_appendSort h.1 (fun hm => hc ((list_contains_iff_mem _ _).mpr hm)),
      folded_appendSort_fold y h.2⟩

theorem addUser_users (c : Channel) (x : Bytes) :
    (c.addUser x).users = if c.users.contains (fold x) then c.users else appendSort c.users (fold x) := by
  unfold Channel.addUser Channel.userIn; split <;> rfl

theorem addChannel_chans (u : User) (x : Bytes) :
    (u.addChannel x).chans = if u.chans.contains (fold x) then u.chans else appendSort u.chans (fold x) := by
  unfold User.addChannel User.inChannel; split <;> rfl

theorem addUser_name (c : Channel) (x : Bytes) : (c.addUser x).name = c.name := by
  unfold Channel.addUser; split <;> rfl

theorem addChannel_nick (u : User) (x : Bytes) : (u.addChannel x).nick = u.nick := by
  unfold User.addChannel; split <;> rfl

theorem addUser_mem (c : Channel) (x y : Bytes) :
    y ∈ (c.addUser x).users ↔ y = fold x ∨ y ∈ c.users := by
  rw [addUser_users]; exact mem_ite_appendSort _ _ _

theorem addChannel_mem (u : User) (x y : Bytes) :
    y ∈ (u.addChannel x).chans ↔ y = fold x ∨ y ∈ u.chans := by
  rw [addChannel_chans]; exact mem_ite_appendSort _ _ _

/-- Join a (possibly new) user `n` to an existing channel `k`: `ch.addUser a` with `fold a = n`,
    `u.addChannel b` with `fold b = k`, then arbitrary attribute changes of the user (same nick, same
    channel list). `u` is the user record before the join: the stored one, or a fresh one with an
    empty channel list when nothing is stored under `n`. The new user map is any map that answers
    under `n` with `u'` and elsewhere as `us`. -/
theorem invL_join_add {cs : AMap Channel} {us us' : AMap User} (h : InvL cs us)
    {k n a b : Bytes} {ch : Channel} {u u' : User}
    (hc : AMap.get? cs k = some ch)
    (hu : AMap.get? us n = some u ∨ (AMap.get? us n = none ∧ u.chans = []))
    (hn : n = fold u.nick) (ha : fold a = n) (hb : fold b = k)
    (hnick : u'.nick = (u.addChannel b).nick) (hchans : u'.chans = (u.addChannel b).chans)
    (hnd : (AMap.keys us').Nodup) (hget : ∀ x, AMap.get? us' x = if x = n then some u' else AMap.get? us x) :
    InvL (AMap.set cs k (ch.addUser a)) us' := by
  have husorted : sortedStrict u.chans = true ∧ folded u.chans = true := by
    rcases hu with hu | ⟨_, he⟩
    · exact h.userSorted n u hu
    · rw [he]; exact ⟨rfl, rfl⟩
  have hum : ∀ j, j ∈ u'.chans ↔ (j = k ∧ True) ∨ (j ≠ k ∧ j ∈ u.chans) := by
    intro j
    rw [hchans, addChannel_mem, hb]
    by_cases e : j = k <;> simp [e]
  refine h.point (N := n) (b := True) hc ?_ hnd (fun x => ?_) ?_ ?_ (fun x => ?_) hum
  · intro j
    rcases hu with hu | ⟨hu, he⟩
    · exact (listed_of_get hu j).symm
    · rw [he]; exact ⟨(fun hj => nomatch hj), fun ⟨_, hv, _⟩ => nomatch hu.symm.trans hv⟩
  · rw [hget, if_neg (List.ne_nil_of_mem ((hum k).mpr (Or.inl ⟨rfl, trivial⟩)))]
  · rw [addUser_name, addUser_users]; exact ⟨h.chanKey k ch hc, sorted_ite_appendSort a (h.chanSorted k ch hc)⟩
  · rw [hnick, hchans, addChannel_nick, addChannel_chans]; exact ⟨hn, sorted_ite_appendSort b husorted⟩
  · rw [addUser_mem, ha]
    by_cases e : x = n <;> simp [e]

theorem invL_newChannel {cs : AMap Channel} {us : AMap User} (h : InvL cs us)
    {k : Bytes} {c : Channel} (hk : AMap.get? cs k = none) (hname : k = fold c.name) (hus : c.users = []) :
    InvL (AMap.set cs k c) us := by
  obtain ⟨h1, h2, hC, hU, hE⟩ := invL_iff.mp h
  refine invL_iff.mpr ⟨keys_set_nodup h1 k c, h2, ?_, hU, ?_⟩
  · intro x v hx
    rcases (get?_set_eq_some_iff _ _ _ _ _).mp hx with ⟨rfl, rfl⟩ | ⟨_, hx⟩
    · exact ⟨hname, hus ▸ ⟨rfl, rfl⟩⟩
    · exact hC x v hx
  · intro j x
    rw [← hE, listed_set, hus]
    refine ⟨fun h => h.elim (fun h => nomatch h.2) (fun h => h.2), fun h => Or.inr ⟨fun e => ?_, h⟩⟩
    obtain ⟨_, hv, _⟩ := h
    rw [e, hk] at hv; cases hv

theorem createChannel_users (st : St) (name : Bytes) : (st.createChannel name).1.users = st.users := by
  unfold St.createChannel; split <;> rfl

theorem createChannel_channels_of_none (st : St) (name : Bytes) (hn : st.lookupChannel name = none) :
    ∃ c : Channel, c.name = name ∧ c.users = [] ∧
      (st.createChannel name).1.channels = AMap.set st.channels (fold name) c := by
  unfold St.createChannel
  rw [(contains_eq_false_iff _ _).mpr hn]
  exact ⟨_, rfl, rfl, rfl⟩

theorem createUser_channels (st : St) (src : Source) : (st.createUser src).1.channels = st.channels := by
  unfold St.createUser; split <;> rfl

theorem createUser_users_of_none (st : St) (src : Source) (hn : st.lookupUser src.name = none) :
    ∃ u : User, u.nick = src.name ∧ u.chans = [] ∧
      (st.createUser src).1.users = AMap.set st.users (fold src.name) u := by
  unfold St.createUser
  rw [(contains_eq_false_iff _ _).mpr hn]
  exact ⟨_, rfl, rfl, rfl⟩

theorem createUser_of_some (st : St) (src : Source) {u : User} (hs : st.lookupUser src.name = some u) :
    (st.createUser src).1 = st := by
  unfold St.createUser
  rw [(contains_iff_get? _ _).mpr ⟨u, hs⟩]; rfl

def ensureChannel (st : St) (name : Bytes) : St :=
  if (st.lookupChannel name).isNone then (st.createChannel name).1 else st

def ensureUser (st : St) (src : Source) : St :=
  if (st.lookupUser src.name).isNone then (st.createUser src).1 else st

theorem ensureChannel_of_none {st : St} {name : Bytes} (hl : st.lookupChannel name = none) :
    ensureChannel st name = (st.createChannel name).1 := by
  unfold ensureChannel; rw [hl]; rfl

theorem ensureChannel_of_some {st : St} {name : Bytes} {ch : Channel} (hl : st.lookupChannel name = some ch) :
    ensureChannel st name = st := by
  unfold ensureChannel; rw [hl]; rfl

theorem ensureUser_of_none {st : St} {src : Source} (hl : st.lookupUser src.name = none) :
    ensureUser st src = (st.createUser src).1 := by
  unfold ensureUser; rw [hl]; rfl

theorem ensureUser_of_some {st : St} {src : Source} {u : User} (hl : st.lookupUser src.name = some u) :
    ensureUser st src = st := by
  unfold ensureUser; rw [hl]; rfl

theorem ensureChannel_spec (st : St) (name : Bytes) (h : InvL st.channels st.users) :
    InvL (ensureChannel st name).channels (ensureChannel st name).users ∧
      ∃ ch, (ensureChannel st name).lookupChannel name = some ch := by
  cases hl : st.lookupChannel name with
  | some ch => rw [ensureChannel_of_some hl]; exact ⟨h, ch, hl⟩
  | none =>
    obtain ⟨c, hcn, hcu, hcs⟩ := createChannel_channels_of_none st name hl
    rw [ensureChannel_of_none hl, createChannel_users, hcs]
    refine ⟨invL_newChannel h hl (by rw [hcn]) hcu, c, ?_⟩
    rw [lookupChannel_eq, hcs]; exact get?_set_self _ _ _

/-- The state after `ensureUser`: channels untouched; the user found afterwards is either the
    stored one (users untouched) or a fresh one with no channels, stored under `fold src.name`. -/
theorem ensureUser_spec (st : St) (src : Source) (h : InvL st.channels st.users) :
    (ensureUser st src).channels = st.channels ∧
    ∃ u, (ensureUser st src).lookupUser src.name = some u ∧ fold src.name = fold u.nick ∧
      ((AMap.get? st.users (fold src.name) = some u ∧ (ensureUser st src).users = st.users) ∨
       (AMap.get? st.users (fold src.name) = none ∧ u.chans = [] ∧
          (ensureUser st src).users = AMap.set st.users (fold src.name) u)) := by
  cases hl : st.lookupUser src.name with
  | some u =>
    rw [ensureUser_of_some hl]
    refine ⟨rfl, u, hl, h.userKey _ u hl, Or.inl ⟨hl, rfl⟩⟩
  | none =>
    obtain ⟨u, hun, huc, hus⟩ := createUser_users_of_none st src hl
    rw [ensureUser_of_none hl]
    refine ⟨createUser_channels st src, u, ?_, by rw [hun], Or.inr ⟨hl, huc, hus⟩⟩
    rw [lookupUser_eq, hus]; exact get?_set_self _ _ _

/-- `createUser` (unconditional, as in NAMES) behaves like `ensureUser`. -/
theorem createUser_eq_ensureUser (st : St) (src : Source) : (st.createUser src).1 = ensureUser st src := by
  cases hl : st.lookupUser src.name with
  | some u => rw [createUser_of_some st src hl, ensureUser_of_some hl]
  | none => rw [ensureUser_of_none hl]

theorem invL_join_ensured {st : St} (h : InvL st.channels st.users) (src : Source)
    {k a b : Bytes} {ch : Channel} {u u' : User}
    (hc : AMap.get? st.channels k = some ch)
    (hu : (ensureUser st src).lookupUser src.name = some u)
    (ha : fold a = fold src.name) (hb : fold b = k)
    (hnick : u'.nick = (u.addChannel b).nick) (hchans : u'.chans = (u.addChannel b).chans) :
    InvL (AMap.set (ensureUser st src).channels k (ch.addUser a))
         (AMap.set (ensureUser st src).users (fold src.name) u') := by
  obtain ⟨hcs, w, hw, hwn, hcase⟩ := ensureUser_spec st src h
  rw [hu] at hw; cases hw
  rw [hcs]
  rcases hcase with ⟨hget, hus⟩ | ⟨hget, hnil, hus⟩
  · rw [hus]
    exact invL_join_add h hc (Or.inl hget) hwn ha hb hnick hchans (keys_set_nodup h.userKeys _ _)
      (fun x => get?_set _ _ x _)
  · rw [hus]
    exact invL_join_add h hc (Or.inr ⟨hget, hnil⟩) hwn ha hb hnick hchans
      (keys_set_nodup (keys_set_nodup h.userKeys _ _) _ _) (fun x => by rw [get?_set_set, get?_set])

def joinAttrs (params : List Bytes) (user : User) : User :=
  match params with
  | _ :: acct :: rest =>
    let user := if acct ≠ sStar then { user with account := acct } else user
    (match rest with
     | nm :: _ => { user with name := nm }
     | [] => user)
  | _ => user

theorem joinAttrs_core (params : List Bytes) (u : User) :
    (joinAttrs params u).nick = u.nick ∧ (joinAttrs params u).chans = u.chans := by
  unfold joinAttrs
  split
  · split <;> (dsimp only; split <;> exact ⟨rfl, rfl⟩)
  · exact ⟨rfl, rfl⟩

def joinC (cfg : Cfg) (params : List Bytes) (src : Source) (channelName : Bytes)
    (channel : Channel) (user : User) (st : St) : M (St × List Out) :=
  let channel := channel.addUser user.nick
  let user := user.addChannel channel.name
  let user := joinAttrs params user
  let st := setChannel st (fold channelName) channel
  let st := setUser st (fold src.name) user
  if fold src.name = getID cfg st then
    .ok ({ st with ident := src.ident, host := src.host },
         [.send (whoEvent channelName), .send { command := cMODE, params := [channelName] }])
  else .ok (st, [.send (whoEvent src.name)])

def joinB (cfg : Cfg) (params : List Bytes) (src : Source) (channelName : Bytes)
    (channel : Channel) (st : St) : M (St × List Out) := do
  let user ← deref (st.lookupUser src.name)
  joinC cfg params src channelName channel user st

def joinA (cfg : Cfg) (params : List Bytes) (src : Source) (channelName : Bytes) (st : St) :
    M (St × List Out) := do
  let channel ← deref (st.lookupChannel channelName)
  joinB cfg params src channelName channel (ensureUser st src)

theorem joinC_ok (cfg : Cfg) (params : List Bytes) (src : Source) (channelName : Bytes)
    (ch : Channel) (u : User) (st : St) :
    ∃ st' outs, joinC cfg params src channelName ch u st = .ok (st', outs) ∧
      st'.channels = AMap.set st.channels (fold channelName) (ch.addUser u.nick) ∧
      st'.users = AMap.set st.users (fold src.name) (joinAttrs params (u.addChannel (ch.addUser u.nick).name)) := by
  unfold joinC
  dsimp only
  split <;> exact ⟨_, _, rfl, rfl, rfl⟩

theorem joinA_inv (cfg : Cfg) (params : List Bytes) (src : Source) (channelName : Bytes) (st : St)
    (h : InvL st.channels st.users) {ch : Channel} (hch : st.lookupChannel channelName = some ch) :
    ∃ st' outs, joinA cfg params src channelName st = .ok (st', outs) ∧ Inv st' := by
  obtain ⟨_, u, hu, hun, _⟩ := ensureUser_spec st src h
  obtain ⟨st', outs, hrun, hcs, hus⟩ := joinC_ok cfg params src channelName ch u (ensureUser st src)
  refine ⟨st', outs, ?_, inv_of_invL_maps ?_ hcs hus⟩
  · unfold joinA
    rw [hch]
    show joinB cfg params src channelName ch (ensureUser st src) = _
    unfold joinB
    rw [hu]
    exact hrun
  · refine invL_join_ensured h src hch hu hun.symm (b := (ch.addUser u.nick).name) ?_ ?_ ?_
    · rw [addUser_name]; exact (h.chanKey _ ch hch).symm
    · rw [(joinAttrs_core _ _).1]
    · rw [(joinAttrs_core _ _).2]

theorem handleJOIN_inv (cfg : Cfg) (st : St) (e : Event) (h : Inv st) :
    ∃ st' outs, handleJOIN cfg st e = .ok (st', outs) ∧ Inv st' := by
  unfold handleJOIN
  split
  · rename_i src channelName tail hsrc hparams
    show ∃ st' outs, joinA cfg e.params src channelName (ensureChannel st channelName) = .ok (st', outs) ∧ Inv st'
    obtain ⟨h1, ch, hch⟩ := ensureChannel_spec st channelName h.toInvL
    exact joinA_inv cfg e.params src channelName _ h1 hch
  · exact ⟨st, [], rfl, h⟩

/-- The part of `namesEntry` after the source has been determined. -/
def namesBody (channelKey : Bytes) (st : St) (modes : Bytes) (src : Source) : M St :=
  let st := (st.createUser src).1
  match st.lookupUser src.name with
  | none => .ok st
  | some user => do
    let channel ← deref (AMap.get? st.channels channelKey)
    let user := user.addChannel channel.name
    let channel := channel.addUser (fold src.name)
    let user := { user with perms := AMap.set user.perms (fold channel.name) (permsFromPrefix modes) }
    .ok (setChannel (setUser st (fold src.name) user) channelKey channel)

theorem namesEntry_cases (channelKey : Bytes) (st : St) (part : Bytes) :
    namesEntry channelKey st part = .ok st ∨
      ∃ modes src, namesEntry channelKey st part = namesBody channelKey st modes src := by
  unfold namesEntry
  generalize parseUserPrefix part = p
  obtain ⟨modes, nick, ok⟩ := p
  cases ok
  · exact Or.inl rfl
  · by_cases hat : nick.contains AT = true
    · refine Or.inr ⟨modes, parseSource nick, ?_⟩
      dsimp only
      rw [if_pos hat]; rfl
    · by_cases hv : isValidNick nick = true
      · refine Or.inr ⟨modes, ⟨nick, [], []⟩, ?_⟩
        dsimp only
        rw [if_neg hat, hv]; rfl
      · refine Or.inl ?_
        dsimp only
        rw [if_neg hat, (Bool.not_eq_true _).mp hv]; rfl

/-- The loop invariant of `handleNAMES`: the invariant, and the channel is still there. -/
def NamesInv (channelKey : Bytes) (st : St) : Prop :=
  Inv st ∧ ∃ ch, AMap.get? st.channels channelKey = some ch

theorem namesBody_inv (channelKey : Bytes) (st : St) (modes : Bytes) (src : Source)
    (h : NamesInv channelKey st) :
    ∃ st', namesBody channelKey st modes src = .ok st' ∧ NamesInv channelKey st' := by
  obtain ⟨hinv, ch, hch⟩ := h
  have hL := hinv.toInvL
  obtain ⟨hcs, u, hu, _, _⟩ := ensureUser_spec st src hL
  have hk : channelKey = fold ch.name := hL.chanKey _ ch hch
  have hfinal := invL_join_ensured (u' := { u.addChannel ch.name with
      perms := AMap.set (u.addChannel ch.name).perms (fold (ch.addUser (fold src.name)).name) (permsFromPrefix modes) })
    hL src hch hu (fold_idem src.name) hk.symm rfl rfl
  unfold namesBody
  dsimp only
  rw [createUser_eq_ensureUser, hu]
  dsimp only
  rw [hcs, hch]
  refine ⟨_, rfl, ?_, ch.addUser (fold src.name), ?_⟩
  · exact inv_of_invL (st := setChannel (setUser (ensureUser st src) (fold src.name) _) channelKey _) hfinal
  · show AMap.get? (AMap.set (ensureUser st src).channels channelKey _) channelKey = _
    exact get?_set_self _ _ _

theorem namesEntry_inv (channelKey : Bytes) (st : St) (part : Bytes) (h : NamesInv channelKey st) :
    ∃ st', namesEntry channelKey st part = .ok st' ∧ NamesInv channelKey st' := by
  rcases namesEntry_cases channelKey st part with he | ⟨modes, src, he⟩
  · exact ⟨st, he, h⟩
  · rw [he]; exact namesBody_inv channelKey st modes src h

theorem names_foldlM_inv (channelKey : Bytes) (parts : List Bytes) (st : St) (h : NamesInv channelKey st) :
    ∃ st', parts.foldlM (namesEntry channelKey) st = .ok st' ∧ NamesInv channelKey st' := by
  induction parts generalizing st with
  | nil => exact ⟨st, rfl, h⟩
  | cons p ps ih =>
    obtain ⟨st1, he, h1⟩ := namesEntry_inv channelKey st p h
    rw [List.foldlM_cons, he]
    exact ih st1 h1

theorem handleNAMES_inv (st : St) (e : Event) (h : Inv st) :
    ∃ st', handleNAMES st e = .ok st' ∧ Inv st' := by
  unfold handleNAMES
  split
  · exact ⟨st, rfl, h⟩
  · rename_i hlen
    have hlt : 2 < e.params.length := by omega
    rw [idx_ok _ 2 hlt]
    show ∃ st', (match st.lookupChannel e.params[2] with
      | none => Except.ok st
      | some _ => List.foldlM (namesEntry (fold e.params[2])) st (splitOnByte SP e.last)) = .ok st' ∧ Inv st'
    cases hl : st.lookupChannel e.params[2] with
    | none => exact ⟨st, rfl, h⟩
    | some ch =>
      obtain ⟨st', he, hi, _⟩ := names_foldlM_inv (fold e.params[2]) (splitOnByte SP e.last) st ⟨h, ch, hl⟩
      exact ⟨st', he, hi⟩

end Girc.Proofs.InvJoin
