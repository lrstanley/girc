import Girc.Proofs.TransBase
import Girc.Model.Sasl
import Girc.Model.Consts
import Girc.Model.SendPath
/-
  Translator equivalence: cap_sasl.go (*SASLPlain).Encode / (*SASLExternal).Encode (the guard on the parameters)
  and the AUTHENTICATE chunk loop of handleSASL; conn.go (*ircConn).rate.
  The short final steps stand under the tie theorems in Props/TieSasl.lean and TieRate.lean.
-/
namespace Girc.Proofs.Trans
open Girc Girc.Model Girc.Go Girc.Gen

theorem sasl_guard (params : List Bytes) :
    orE (pure (len params != 1)) (do pure ((← atL params 0) != [0x2B])) = .ok (decide (params ≠ [PLUS])) := by
  match params with
  | [] => rfl
  | [a] =>
    have h0 : atL [a] 0 = .ok a := atL_ofNat (n := 0) rfl
    by_cases ha : a = [0x2B]
    · rw [ha]; rfl
    · simp only [gosem, show (len [a] != 1) = false from rfl, h0, bne_iff_ne.mpr ha]
      rw [decide_eq_true (show [a] ≠ [PLUS] from fun h => ha (List.cons.inj h).1)]; rfl
  | a :: b :: r =>
    simp only [gosem, show (len (a :: b :: r) != 1) = true from
      bne_iff_ne.mpr (by simp only [len, List.length_cons]; omega)]
    rw [decide_eq_true (show a :: b :: r ≠ [PLUS] from fun h => nomatch h)]

/-! The AUTHENTICATE chunk loop of `handleSASL` is translated on its own (suffix target `handleSASL_chunks`). -/

/-- One AUTHENTICATE line handed to `c.write`. -/
def authWrite (c : Bytes) : Out := Out.write { command := cAUTHENTICATE, params := [c] }

theorem AUTHENTICATE_eq : Fn.AUTHENTICATE = cAUTHENTICATE := by decide +kernel

theorem handleSASL_chunks_loop1_eq : ∀ (fuel : Nat) (auth : Bytes) (outs : List Out), auth.length < fuel →
    ∃ a, Fn.handleSASL_chunks_loop1 fuel auth outs = .ok (.done (a, outs ++ (saslChunksFuel fuel auth).map authWrite))
  | 0, _, _, h => by omega
  | fuel + 1, auth, outs, hf => by
    unfold saslChunksFuel
    by_cases hgt : auth.length > saslChunkSize
    · have hgt' : auth.length > 400 := hgt
      obtain ⟨a, ih⟩ := handleSASL_chunks_loop1_eq fuel (auth.drop saslChunkSize)
        (outs ++ [authWrite (auth.take saslChunkSize)])
        (by rw [List.length_drop]; exact (by omega : auth.length - 400 < fuel))
      refine ⟨a, ?_⟩
      rw [if_pos hgt, List.map_cons, List.append_cons, ← ih]
      simp only [gosem, Fn.handleSASL_chunks_loop1, AUTHENTICATE_eq,
        show decide (len auth > 400) = true from decide_eq_true (by rw [len]; omega),
        sliceI_fromZero auth (hi := 400) 400 rfl (Nat.le_of_lt hgt'),
        sliceI_toEnd auth (lo := 400) 400 rfl (Nat.le_of_lt hgt')]
      rfl
    · have hle : auth.length ≤ 400 := Nat.le_of_not_lt hgt
      refine ⟨auth, ?_⟩
      simp only [gosem, Fn.handleSASL_chunks_loop1, AUTHENTICATE_eq, if_neg hgt,
        show decide (len auth > 400) = false from decide_eq_false (by rw [len]; omega),
        show decide (len auth ≤ 400) = true from decide_eq_true (by rw [len]; omega)]
      by_cases h4 : auth.length = 400
      · rw [if_pos h4, if_pos (show (len auth == 400) = true by rw [len, h4]; rfl), List.append_assoc]; rfl
      · rw [if_neg h4, if_neg (show ¬ (len auth == 400) = true by rw [len, beq_iff_eq]; omega)]; rfl

theorem cost_tdiv (n : Nat) :
    ((1000000000 : Int) + Int.tdiv ((n : Int) * (1000000000 : Int)) 100) = cost n := by
  unfold cost second
  rw [Int.tdiv_eq_ediv_of_nonneg (by omega)]

/-- The reference point and the elapsed time `rate` credits, as functions of the limiter fields. -/
def connSince (c : IrcConn) (now : Int) : Int :=
  let ref := if c.lastDue > c.lastWrite then c.lastDue else c.lastWrite
  if now - ref < 0 then 0 else now - ref

theorem ircConn_rate_eq (c : IrcConn) (now : Int) (n : Nat) :
    Fn.ircConn_rate now (some c) (n : Int) = .ok
      ((rate c.writeDelay (connSince c now) n).2,
       some { c with writeDelay := (rate c.writeDelay (connSince c now) n).1,
                     lastDue := now + (rate c.writeDelay (connSince c now) n).2 }) := by
  -- the last two comparisons, for whatever has elapsed
  have fin : ∀ since : Int,
      (if c.writeDelay + (cost n - since) < 0 then
        if (0 : Int) > 8 * second then
          (.ok (cost n, some { c with writeDelay := 0, lastDue := now + cost n }) : Except Fault (Int × Option IrcConn))
        else .ok (0, some { c with writeDelay := 0, lastDue := now })
      else if c.writeDelay + (cost n - since) > 8 * second then
        .ok (cost n, some { c with writeDelay := c.writeDelay + (cost n - since), lastDue := now + cost n })
      else .ok (0, some { c with writeDelay := c.writeDelay + (cost n - since), lastDue := now })) =
      .ok ((rate c.writeDelay since n).2,
        some { c with writeDelay := (rate c.writeDelay since n).1, lastDue := now + (rate c.writeDelay since n).2 }) := by
    intro since
    unfold rate
    by_cases h3 : c.writeDelay + (cost n - since) < 0 <;> simp only [h3, if_true, if_false] <;> split <;>
      first | rfl | rw [Int.add_zero]
  simp only [gosem, Fn.ircConn_rate, cost_tdiv, connSince, show (8 * (1000000000 : Int)) = 8 * second from rfl,
    decide_eq_true_eq]
  by_cases h1 : c.lastDue > c.lastWrite <;> simp only [h1, if_true, if_false]
  · by_cases h2 : now - c.lastDue < 0 <;> simp only [h2, if_true, if_false] <;> exact fin _
  · by_cases h2 : now - c.lastWrite < 0 <;> simp only [h2, if_true, if_false] <;> exact fin _

/-- The limiter fields of the outgoing-path model's state, as an `ircConn`. -/
def connOf {α : Type} (s : SendSt α) : IrcConn :=
  { lastWrite := s.lastWrite, lastDue := s.lastDue, writeDelay := s.writeDelay }

end Girc.Proofs.Trans
