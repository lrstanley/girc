import Girc.Proofs.InvHandlers
import Girc.Proofs.SimBase
/-
  C04: messages that remove members (PART, KICK, QUIT); `st`/`r` are the states AFTER the account-tag step.
  Everything hangs on `sim_shrink`: a consistent (`Inv`) state whose channels are those of `st` with the user
  lists cut down to the kept memberships, and whose users are users of `st` with unchanged attributes, is
  related to `gc { r with chans := C', members := r.members.filter keep }`. WHICH users survive is not a
  hypothesis: `Inv` (no user without a channel, both directions of the membership lists) pins it down to
  "mentioned by a kept membership", which is what `gc` keeps. `deleteUser [] nick`, `deleteUser chan nick`
  (chan ≠ "") and `deleteChannel chan` are instances, against `Ref.dropUser`, `Ref.dropMember`, `Ref.dropChan`.
-/
namespace Girc.Proofs.SimLeave
open Girc Girc.Model Girc.Spec Girc.Proofs.InvBase Girc.Proofs.InvDelete Girc.Proofs.SimAMap Girc.Proofs.SimJoin

theorem contains_of_get? {β : Type} {m : AMap β} {k : Bytes} {v : β} (h : AMap.get? m k = some v) :
    AMap.contains m k = true :=
  InvBase.contains_of_get? h

theorem gc_users (R : Ref) :
    (Ref.gc R).users = List.filter (fun p => R.members.any (fun m => decide (m.2 = p.1))) R.users := rfl

theorem get?_gc_users (R : Ref) (n : Bytes) :
    AMap.get? (Ref.gc R).users n =
      if R.members.any (fun m => decide (m.2 = n)) = true then AMap.get? R.users n else none :=
  get?_filter_key R.users (fun n => R.members.any (fun m => decide (m.2 = n))) n

theorem any_of_mem {M : List (Bytes × Bytes)} {k n : Bytes} (h : (k, n) ∈ M) :
    M.any (fun m => decide (m.2 = n)) = true :=
  List.any_eq_true.mpr ⟨(k, n), h, decide_eq_true rfl⟩

theorem getPerms_gc (R : Ref) {k n : Bytes} (h : (k, n) ∈ R.members) :
    (Ref.gc R).getPerms k n = R.getPerms k n := by
  unfold Ref.getPerms
  rw [show (Ref.gc R).perms = List.filter (fun p => R.members.contains p.1) R.perms from rfl, List.find?_filter]
  congr 3
  funext a
  by_cases ha : (a.1 == (k, n)) = true
  · rw [ha, eq_of_beq ha, List.contains_iff_mem.mpr h]
    rfl
  · rw [(Bool.not_eq_true _).mp ha]
    exact decide_eq_false fun hh => Bool.false_ne_true hh.2

theorem sim_shrink {st : St} {r : Ref} (h : SimW st r) (keep : Bytes × Bytes → Bool) {C' : AMap RChan}
    {cs' : AMap Channel} {us' : AMap User} (hinv : Inv { st with channels := cs', users := us' })
    (hC : ∀ k, (AMap.get? cs' k).map chanView = AMap.get? C' k)
    (hCnd : (AMap.keys C').Nodup)
    (hCk : ∀ k n, (k, n) ∈ r.members → keep (k, n) = true → AMap.contains C' k = true)
    (hch : ∀ k ch', AMap.get? cs' k = some ch' → ∃ ch, AMap.get? st.channels k = some ch ∧
        ch'.modes = ch.modes ∧ ∀ n, n ∈ ch'.users ↔ (n ∈ ch.users ∧ keep (k, n) = true))
    (hus : ∀ n u', AMap.get? us' n = some u' → ∃ u, AMap.get? st.users n = some u ∧
        userView u' = userView u ∧ ∀ k, keep (k, n) = true → AMap.get? u'.perms k = AMap.get? u.perms k) :
    SimW { st with channels := cs', users := us' }
      (Ref.gc { r with chans := C', members := r.members.filter keep }) := by
  have L' : InvL cs' us' := hinv.toInvL
  have hmem : ∀ k ch', AMap.get? cs' k = some ch' →
      ∀ n, n ∈ ch'.users ↔ (k, n) ∈ r.members.filter keep := by
    intro k ch' hk n
    obtain ⟨ch, hch1, _, hiff⟩ := hch k ch' hk
    rw [hiff, List.mem_filter, h.members k ch hch1 n]
  -- the new state has exactly the users that a kept membership mentions, which are those `gc` keeps
  have hshare : ∀ n, (r.members.filter keep).any (fun m => decide (m.2 = n)) = true ↔
      ∃ u', AMap.get? us' n = some u' := by
    intro n
    constructor
    · intro ha
      obtain ⟨⟨k, n'⟩, hkn, hn'⟩ := List.any_eq_true.mp ha
      cases of_decide_eq_true hn'
      obtain ⟨hm, hkeep⟩ := List.mem_filter.mp hkn
      obtain ⟨ch', hc⟩ := get?_of_known hC (hCk k n' hm hkeep)
      obtain ⟨u', hu', _⟩ := L'.chanToUser k ch' hc n' ((hmem k ch' hc n').mpr hkn)
      exact ⟨u', hu'⟩
    · rintro ⟨u', hu'⟩
      obtain ⟨k, hk⟩ := List.exists_mem_of_ne_nil _ (L'.userHasChan n u' hu')
      obtain ⟨ch', hc', hn⟩ := L'.userToChan n u' hu' k hk
      exact any_of_mem ((hmem k ch' hc' n).mp hn)
  have husers : ∀ n, (AMap.get? us' n).map userView =
      AMap.get? (Ref.gc { r with chans := C', members := r.members.filter keep }).users n := by
    intro n
    rw [get?_gc_users]
    cases hu' : AMap.get? us' n with
    | some u' =>
      obtain ⟨u, hu, hv, _⟩ := hus n u' hu'
      rw [if_pos ((hshare n).mpr ⟨u', hu'⟩), ← h.users n, hu]
      exact congrArg some hv
    | none =>
      rw [if_neg fun ha => ?_]
      · rfl
      · obtain ⟨u', hu''⟩ := (hshare n).mp ha
        rw [hu'] at hu''
        cases hu''
  have hknown : ∀ k n, (k, n) ∈ r.members.filter keep →
      AMap.contains (Ref.gc { r with chans := C', members := r.members.filter keep }).users n = true := by
    intro k n hkn
    obtain ⟨u', hu'⟩ := (hshare n).mp (any_of_mem hkn)
    exact contains_of_view husers hu'
  exact SimW.of_sim { h with
    inv := hinv
    chans := hC
    chanModesWF := fun k ch' hk => by
      obtain ⟨ch, hch1, hm, _⟩ := hch k ch' hk
      rw [hm]; exact h.chanModesWF k ch hch1
    users := husers
    members := hmem
    membersKnown := fun k n hkn => by
      obtain ⟨hm, hkeep⟩ := List.mem_filter.mp hkn
      exact ⟨hCk k n hm hkeep, hknown k n hkn⟩
    membersNodup := h.membersNodup.sublist List.filter_sublist
    perms := fun k n u' hkn hu' => by
      obtain ⟨hm, hkeep⟩ := List.mem_filter.mp hkn
      obtain ⟨u, hu, _, hp⟩ := hus n u' hu'
      rw [hp k hkeep, h.perms k n u hm hu]
      exact (getPerms_gc { r with chans := C', members := r.members.filter keep } hkn).symm
    permsKnown := fun p hp => hknown p.1.1 p.1.2 (List.contains_iff_mem.mp (List.mem_filter.mp hp).2)
    chanKeysNodup := hCnd
    userKeysNodup := keys_filter_nodup h.userKeysNodup _
    chanKeysNonempty := fun k hk => by
      obtain ⟨ch', hc'⟩ := get?_of_known hC hk
      obtain ⟨ch, hch1, _⟩ := hch k ch' hc'
      exact h.chanKeysNonempty k (contains_of_view h.chans hch1) }

/-- Removing `x` from a duplicate-free list, as a filter on the memberships. -/
theorem mem_erase_keep {l : List Bytes} (hnd : l.Nodup) (x n : Bytes) (b : Bool) (hb : b = true ↔ n ≠ x) :
    n ∈ l.erase x ↔ (n ∈ l ∧ b = true) := by
  rw [mem_erase_of_nodup hnd, hb]
  exact And.comm

theorem inv_of_run {m : M St} {s : St} (hrun : m = .ok s) (hg : ∃ st', m = .ok st' ∧ Inv st') : Inv s := by
  obtain ⟨st', hrun', hi⟩ := hg
  rw [hrun] at hrun'
  cases hrun'
  exact hi

theorem sim_dropUser {st : St} {r : Ref} (hi : Inv st) (h : SimW st r) {nick : Bytes} (hf : fold nick = nick)
    (hk : AMap.contains r.users nick = true) :
    ∃ st', st.deleteUser [] nick = .ok st' ∧ SimW st' (r.dropUser nick) := by
  obtain ⟨user, hu⟩ := get?_of_known h.users hk
  obtain ⟨cs', hrun, _, hget⟩ := deleteUser_nil_eq hi nick (hf.symm ▸ hu)
  rw [hf] at hrun hget
  refine ⟨_, hrun, sim_shrink h (fun m => m.2 != nick) (inv_of_run hrun (deleteUser_inv st [] nick hi)) ?_
    h.chanKeysNodup (fun k n hm _ => (h.membersKnown k n hm).1) ?_ ?_⟩
  · intro k
    rw [hget, ← h.chans k]
    cases AMap.get? st.channels k <;> rfl
  · intro k ch' hk'
    rw [hget] at hk'
    obtain ⟨ch, hc, rfl⟩ := Option.map_eq_some_iff.mp hk'
    exact ⟨ch, hc, rfl, fun n => mem_erase_keep (hi.toInvL.users_nodup hc) _ n _ bne_iff_ne⟩
  · intro n u' hn
    exact ⟨u', (get?_erase_some hn).2, rfl, fun _ _ => rfl⟩

theorem sim_dropMember {st : St} {r : Ref} (hi : Inv st) (h : SimW st r) (chan nick : Bytes) (hne : chan ≠ [])
    (hm : (fold chan, fold nick) ∈ r.members) :
    ∃ st', st.deleteUser chan nick = .ok st' ∧ SimW st' (r.dropMember (fold chan) (fold nick)) := by
  obtain ⟨hkc, hku⟩ := h.membersKnown _ _ hm
  obtain ⟨user, hu⟩ := get?_of_known h.users hku
  obtain ⟨channel, hc⟩ := get?_of_known h.chans hkc
  have hrun := deleteUser_edge_eq hne hu hc
  refine ⟨_, hrun, sim_shrink h (fun m => m != (fold chan, fold nick))
    (inv_of_run hrun (deleteUser_inv st chan nick hi)) (view_set_left h.chans hc rfl)
    h.chanKeysNodup (fun k n hm' _ => (h.membersKnown k n hm').1) ?_ ?_⟩
  · intro k ch' hk'
    rcases get?_set_some hk' with ⟨rfl, rfl⟩ | ⟨e, hk'⟩
    · refine ⟨channel, hc, rfl, fun n => mem_erase_keep (hi.toInvL.users_nodup hc) _ n _ ?_⟩
      rw [bne_iff_ne, Ne, Prod.mk.injEq]
      exact ⟨fun hn e => hn ⟨rfl, e⟩, fun hn e => hn e.2⟩
    · exact ⟨ch', hk', rfl, fun n => ⟨fun hn => ⟨hn, bne_iff_ne.mpr fun e' => e (Prod.mk.inj e').1⟩, And.left⟩⟩
  · intro n u' hn
    rw [get?_deleteChannel_step] at hn
    split at hn
    · next e =>
      split at hn
      · cases hn
      · cases hn
        exact ⟨user, e ▸ hu, rfl, fun k hkeep => get?_erase_ne _ fun e' => bne_iff_ne.mp hkeep (by rw [e', e])⟩
    · exact ⟨u', hn, rfl, fun _ _ => rfl⟩

theorem sim_dropChan {st : St} {r : Ref} (hi : Inv st) (h : SimW st r) (chan : Bytes)
    (hk : AMap.contains r.chans (fold chan) = true) :
    ∃ st', st.deleteChannel chan = .ok st' ∧ SimW st' (r.dropChan (fold chan)) := by
  obtain ⟨ch, hc⟩ := get?_of_known h.chans hk
  obtain ⟨us', hrun, _, hget⟩ := deleteChannel_eq hi chan hc
  refine ⟨_, hrun, sim_shrink h (fun m => m.1 != fold chan) (inv_of_run hrun (deleteChannel_inv st chan hi))
    (view_erase h.chans _) (keys_erase_nodup h.chanKeysNodup _)
    (fun k n hm hkeep => (contains_erase _ _ _).mpr ⟨bne_iff_ne.mp hkeep, (h.membersKnown k n hm).1⟩) ?_ ?_⟩
  · intro k ch' hk'
    obtain ⟨e, hk''⟩ := get?_erase_some hk'
    exact ⟨ch', hk'', rfl, fun n => ⟨fun hn => ⟨hn, bne_iff_ne.mpr e⟩, And.left⟩⟩
  · intro x u' hx
    rw [hget] at hx
    split at hx
    · obtain ⟨u, hu, hx⟩ := Option.bind_eq_some_iff.mp hx
      split at hx
      · cases hx
      · cases hx
        refine ⟨u, hu, rfl, fun k hkeep => ?_⟩
        show AMap.get? (AMap.erase u.perms (fold (fold chan))) k = _
        rw [fold_idem, get?_erase_ne _ (bne_iff_ne.mp hkeep)]
    · exact ⟨u', hx, rfl, fun _ _ => rfl⟩

/-- PART and KICK: the whole channel goes if it is us who leave, one membership otherwise. -/
theorem sim_leave {st : St} {r : Ref} (cfg : Cfg) (hi : Inv st) (h : SimW st r) (chan x y : Bytes) (hxy : fold y = fold x)
    (hkc : AMap.contains r.chans (fold chan) = true) (hm : r.isMember (fold chan) (fold x) = true) :
    ∃ st', (if fold x = getID cfg st then st.deleteChannel chan else st.deleteUser chan y) = .ok st' ∧
      SimW st' (if r.isMe cfg x then r.dropChan (fold chan)
        else if AMap.contains r.chans (fold chan) then r.dropMember (fold chan) (fold x) else r) := by
  by_cases hme : fold x = getID cfg st
  · rw [if_pos hme, if_pos ((isMe_iff h cfg x).mpr hme)]
    exact sim_dropChan hi h chan hkc
  · rw [if_neg hme, if_neg fun hh => hme ((isMe_iff h cfg x).mp hh), if_pos hkc, ← hxy]
    refine sim_dropMember hi h chan y (fun e' => h.chanKeysNonempty (fold chan) hkc (by rw [e']; rfl)) ?_
    rw [hxy]
    exact List.contains_iff_mem.mp hm

theorem sim_PART {st : St} {r : Ref} (cfg : Cfg) (e : Event) (hi : Inv st) (h : SimW st r)
    (hc : r.conformant cfg e = true) (hcmd : e.command = cPART) :
    ∃ st', handlePART cfg st e = .ok st' ∧ SimW st' (r.cmdStep cfg e) := by
  obtain ⟨t, s, c, p⟩ := e
  subst hcmd
  have hc := (Bool.and_eq_true_iff.mp (Bool.and_eq_true_iff.mp hc).2).2
  obtain _ | src := s
  · cases hc
  obtain _ | ⟨chan, rest⟩ := p
  · cases hc
  obtain ⟨hkc, hm⟩ := Bool.and_eq_true_iff.mp hc
  have hemp : chan ≠ [] := fun e' => h.chanKeysNonempty (fold chan) hkc (by rw [e']; rfl)
  show ∃ st', (if chan = [] then _ else _) = Except.ok st' ∧ SimW st' (if chan.isEmpty then _ else _)
  rw [if_neg hemp, if_neg fun e' => hemp (List.isEmpty_iff.mp e')]
  exact sim_leave cfg hi h chan src.name (fold src.name) (fold_idem _) hkc hm

theorem sim_KICK {st : St} {r : Ref} (cfg : Cfg) (e : Event) (hi : Inv st) (h : SimW st r)
    (hc : r.conformant cfg e = true) (hcmd : e.command = cKICK) :
    ∃ st', handleKICK cfg st e = .ok st' ∧ SimW st' (r.cmdStep cfg e) := by
  obtain ⟨t, s, c, p⟩ := e
  subst hcmd
  conv => enter [1, st', 2, 2]; whnf
  have hc := (Bool.and_eq_true_iff.mp hc).2
  conv at hc => lhs; whnf
  obtain _ | ⟨chan, _ | ⟨victim, rest⟩⟩ := p
  · cases hc
  · cases hc
  · obtain ⟨hkc, hm⟩ := Bool.and_eq_true_iff.mp hc
    exact sim_leave cfg hi h chan victim victim rfl hkc hm

theorem sim_QUIT {st : St} {r : Ref} (cfg : Cfg) (e : Event) (hi : Inv st) (h : SimW st r)
    (hc : r.conformant cfg e = true) (hcmd : e.command = cQUIT) :
    ∃ st', handleQUIT cfg st e = .ok st' ∧ SimW st' (r.cmdStep cfg e) := by
  obtain ⟨t, s, c, p⟩ := e
  subst hcmd
  conv => enter [1, st', 2, 2]; whnf
  have hc := (Bool.and_eq_true_iff.mp hc).2
  conv at hc => lhs; whnf
  obtain _ | src := s
  · cases hc
  obtain ⟨hku, hnme⟩ := Bool.and_eq_true_iff.mp (Bool.and_eq_true_iff.mp hc).2
  have hnme' : ¬ r.isMe cfg src.name = true := by rw [(Bool.not_eq_true' _).mp hnme]; exact Bool.false_ne_true
  show ∃ st', (if fold src.name = getID cfg st then _ else _) = Except.ok st' ∧
    SimW st' (if r.isMe cfg src.name then _ else _)
  rw [if_neg fun hh => hnme' ((isMe_iff h cfg src.name).mpr hh), if_neg hnme']
  exact sim_dropUser hi h (fold_idem _) hku

end Girc.Proofs.SimLeave
