import Girc.Proofs.InvBase
import Girc.Proofs.ProtocolBAux
import Girc.Proofs.InvDelete
import Girc.Proofs.InvRename
import Girc.Proofs.InvJoin
/-
  C05: every built-in handler returns without a fault and preserves the invariant, one lemma per handler
  (JOIN and NAMES are in InvJoin.lean); then the dispatcher (`handleCommand_inv`), one event, and whole
  histories of received lines. `handleCAP` and the attribute handlers leave the two tracked maps alone (`Same`).
  `Good` / `GoodC` say of a handler run that it returns without a fault in a state satisfying the invariant.
-/
namespace Girc.Proofs.InvHandlers
open Girc Girc.Model Girc.Spec
open Girc.Proofs.InvBase

section cap
open Girc.Proofs.ProtocolBAux

/-- `st'` has the same two tracked maps as `st`. -/
def Same (st st' : St) : Prop := st'.channels = st.channels ∧ st'.users = st.users

theorem Same.inv {st st' : St} (hs : Same st st') (h : Inv st) : Inv st' :=
  inv_of_maps_eq st st' h hs.1 hs.2

/-- `st'` is `st` up to the capability and STS fields. -/
def CapFrame (st st' : St) : Prop :=
  st' = { st with enabledCap := st'.enabledCap, tmpCap := st'.tmpCap, sts := st'.sts }

theorem handleCAP_frame (cfg : Cfg) (st : St) (e : Event) : CapFrame st (handleCAP cfg st e).1 := by
  rw [handleCAP_eq]
  cases isDel e
  · cases isNak e
    · cases isLs e
      · cases isAck e
        · rfl
        · show CapFrame st (ackRes cfg st e.last).1
          rcases ackRes_cases cfg st e.last with ⟨s, _, h⟩ | ⟨v, _, _, _, h⟩ | ⟨v, _, _, _, h⟩
          · rw [h, ackTail_fst]; rfl
          · rw [h]; rfl
          · rw [h]; rfl
      · rfl
    · rfl
  · rfl

theorem handleCAP_same (cfg : Cfg) (st : St) (e : Event) : Same st (handleCAP cfg st e).1 := by
  rw [handleCAP_frame cfg st e]
  exact ⟨rfl, rfl⟩

theorem handleCAP_maps (cfg : Cfg) (st : St) (e : Event) :
    (handleCAP cfg st e).1.channels = st.channels ∧ (handleCAP cfg st e).1.users = st.users :=
  handleCAP_same cfg st e

theorem handleCAP_inv (cfg : Cfg) (st : St) (e : Event) (h : Inv st) : Inv (handleCAP cfg st e).1 :=
  (handleCAP_same cfg st e).inv h

end cap

/-- "returns without a fault, in a consistent state" -/
def Good (m : M St) : Prop := ∃ st', m = .ok st' ∧ Inv st'

theorem good_ok {st : St} (h : Inv st) : Good (.ok st) := ⟨st, rfl, h⟩

theorem handleConnect_inv (st : St) (e : Event) (h : Inv st) : Inv (handleConnect st e) := by
  unfold handleConnect
  split
  · exact inv_of_maps_eq _ _ h rfl rfl
  · exact h

theorem handleMYINFO_inv (st : St) (e : Event) (h : Inv st) : Good (handleMYINFO st e) := by
  unfold handleMYINFO
  split
  · exact good_ok h
  · rw [idx_ok _ 1 (by omega), idx_ok _ 2 (by omega)]
    exact good_ok (inv_of_maps_eq _ _ h rfl rfl)

theorem handleISUPPORT_same (st : St) (e : Event) : Same st (handleISUPPORT st e) := by
  unfold handleISUPPORT
  refine ite_ind (fun _ => ⟨rfl, rfl⟩) fun _ => ite_ind (fun _ => ⟨rfl, rfl⟩) fun _ => ?_
  dsimp only
  split <;> exact ite_ind (fun _ => ⟨rfl, rfl⟩) (fun _ => ⟨rfl, rfl⟩)

theorem handleISUPPORT_inv (st : St) (e : Event) (h : Inv st) : Inv (handleISUPPORT st e) :=
  (handleISUPPORT_same st e).inv h

theorem handleMOTD_inv (st : St) (e : Event) (h : Inv st) : Inv (handleMOTD st e) := by
  unfold handleMOTD
  split <;> exact inv_of_maps_eq _ _ h rfl rfl

theorem handleTOPIC_inv (st : St) (e : Event) (h : Inv st) : Good (handleTOPIC st e) := by
  unfold handleTOPIC
  extract_lets jp
  have hjp : ∀ x, Good (jp x) := by
    intro ⟨name, topic⟩
    unfold jp
    dsimp only
    split
    · exact good_ok h
    · next ch hc => exact good_ok (inv_setChannel_lookup h hc rfl rfl)
  clear_value jp
  split
  · exact good_ok h
  · exact hjp _
  · exact hjp _
  · exact hjp _

theorem handleWHO_inv (st : St) (e : Event) (h : Inv st) : Good (handleWHO st e) := by
  unfold handleWHO
  extract_lets jp
  have hjp : ∀ x, Good (jp x) := by
    intro ⟨ident, host, nick, account, realname, whox⟩
    unfold jp
    dsimp only
    split
    · exact good_ok h
    · next user hu =>
      refine good_ok (inv_setUser_lookup h hu ?_ ?_)
      · split <;> rfl
      · split <;> rfl
  clear_value jp
  split
  · split
    · exact good_ok h
    · rw [idx_ok _ 1 (by omega), ok_bind]
      split
      · exact good_ok h
      · rw [idx_ok _ 3 (by omega), idx_ok _ 4 (by omega), idx_ok _ 5 (by omega), idx_ok _ 6 (by omega)]
        exact hjp _
  · split
    · exact good_ok h
    · rw [idx_ok _ 2 (by omega), idx_ok _ 3 (by omega), idx_ok _ 5 (by omega)]
      exact hjp _

theorem modePerms_inv (name la : Bytes) (st : St) (m : CMode) (h : Inv st) : Inv (modePerms name la st m) := by
  unfold modePerms
  split
  · exact h
  · split
    · exact h
    · split
      · exact h
      · next user hu => exact inv_setUser_lookup h hu rfl rfl

theorem foldl_modePerms_inv (name la : Bytes) (l : List CMode) :
    ∀ st : St, Inv st → Inv (l.foldl (modePerms name la) st) := by
  induction l with
  | nil => intro st h; exact h
  | cons m l ih => intro st h; exact ih _ (modePerms_inv name la st m h)

theorem handleMODE_inv (st : St) (e : Event) (h : Inv st) : Good (handleMODE st e) := by
  unfold handleMODE
  extract_lets ps
  split
  · exact good_ok h
  · rw [idx_ok ps 0 (by omega), ok_bind]
    split
    · exact good_ok h
    · split
      · exact good_ok h
      · next channel hc =>
        rw [idx_ok ps 1 (by omega), ok_bind]
        exact good_ok (foldl_modePerms_inv _ _ _ _ (inv_setChannel_lookup h hc rfl rfl))

theorem updUser_inv (st : St) (n : Bytes) (f : User → User) (h : Inv st)
    (hf : ∀ u, (f u).nick = u.nick ∧ (f u).chans = u.chans) : Inv (updUser st n f) := by
  unfold updUser
  split
  · next u hu => exact inv_setUser_lookup h hu (hf u).1 (hf u).2
  · exact h

theorem userAttr_inv (st : St) (e : Event) (h : Inv st) :
    Inv (handleCHGHOST st e) ∧ Inv (handleAWAY st e) ∧ Inv (handleACCOUNT st e) := by
  unfold handleCHGHOST handleAWAY handleACCOUNT
  refine ⟨?_, ?_, ?_⟩ <;> split <;> first | exact updUser_inv _ _ _ h (fun _ => ⟨rfl, rfl⟩) | exact h

theorem handleTags_inv (st : St) (e : Event) (h : Inv st) : Inv (handleTags st e) := by
  unfold handleTags
  split
  · split
    · exact h
    · split
      · exact updUser_inv _ _ _ h (fun _ => ⟨rfl, rfl⟩)
      · exact h
  · exact h

theorem handlePART_inv (cfg : Cfg) (st : St) (e : Event) (h : Inv st) : Good (handlePART cfg st e) := by
  unfold handlePART
  split
  · split
    · exact good_ok h
    · split
      · exact InvDelete.deleteChannel_inv st _ h
      · exact InvDelete.deleteUser_inv st _ _ h
  · exact good_ok h

theorem handleKICK_inv (cfg : Cfg) (st : St) (e : Event) (h : Inv st) : Good (handleKICK cfg st e) := by
  unfold handleKICK
  split
  · exact good_ok h
  · rw [idx_ok _ 0 (by omega), idx_ok _ 1 (by omega), ok_bind, ok_bind]
    split
    · exact InvDelete.deleteChannel_inv st _ h
    · exact InvDelete.deleteUser_inv st _ _ h

theorem handleNICK_inv (st : St) (e : Event) (h : Inv st) : Good (handleNICK st e) := by
  unfold handleNICK
  split
  · exact good_ok h
  · split
    · exact InvRename.renameUser_inv st _ _ h
    · exact good_ok h

theorem handleQUIT_inv (cfg : Cfg) (st : St) (e : Event) (h : Inv st) : Good (handleQUIT cfg st e) := by
  unfold handleQUIT
  split
  · exact good_ok h
  · split
    · exact good_ok h
    · exact InvDelete.deleteUser_inv st _ _ h

/-- `handleSASL` leaves the tracked state alone (it only counts the mechanism calls). -/
theorem handleSASL_st (cfg : Cfg) (cs : CState) (e : Event) : (handleSASL cfg cs e).1.st = cs.st := by
  unfold handleSASL
  split
  · rfl
  · split
    · rfl
    · extract_lets auth cs1
      split <;> rfl

/-- "returns without a fault, in a consistent state" for the dispatcher's result type. -/
def GoodC (m : M (CState × List Out)) : Prop := ∃ cs' outs, m = .ok (cs', outs) ∧ Inv cs'.st

/-- Every built-in handler, on EVERY event (any command, any number of parameters, with or without
    source or tags), returns without a fault and preserves the invariant. -/
theorem handleCommand_inv (cfg : Cfg) (cs : CState) (e : Event) (h : Inv cs.st) :
    GoodC (handleCommand cfg cs e) := by
  unfold handleCommand
  extract_lets st ret c
  have h' : Inv st := h
  have hret : ∀ (s : St) (o : List Out), Inv s → GoodC (ret s o) :=
    fun s o hs => ⟨_, _, rfl, hs⟩
  have hbind : ∀ (m : M St), Good m → GoodC (m >>= fun x => ret x []) := by
    intro m ⟨s, hm, hs⟩
    rw [hm]
    exact hret s [] hs
  clear_value ret
  refine ite_ind (fun _ => hret _ _ h') fun _ => ?_
  refine ite_ind (fun _ => hret _ _ (handleConnect_inv st e h')) fun _ => ?_
  refine ite_ind (fun _ => hret _ _ h') fun _ => ?_
  refine ite_ind (fun _ => hret _ _ h') fun _ => ?_
  refine ite_ind (fun _ => ?_) fun _ => ?_
  · obtain ⟨s, o, hj, hs⟩ := InvJoin.handleJOIN_inv cfg st e h'
    rw [hj]
    exact hret s o hs
  refine ite_ind (fun _ => hbind _ (handlePART_inv cfg st e h')) fun _ => ?_
  refine ite_ind (fun _ => hbind _ (handleKICK_inv cfg st e h')) fun _ => ?_
  refine ite_ind (fun _ => hbind _ (handleQUIT_inv cfg st e h')) fun _ => ?_
  refine ite_ind (fun _ => hbind _ (handleNICK_inv st e h')) fun _ => ?_
  refine ite_ind (fun _ => hbind _ (InvJoin.handleNAMES_inv st e h')) fun _ => ?_
  refine ite_ind (fun _ => hbind _ (handleMODE_inv st e h')) fun _ => ?_
  refine ite_ind (fun _ => hbind _ (handleWHO_inv st e h')) fun _ => ?_
  refine ite_ind (fun _ => hbind _ (handleTOPIC_inv st e h')) fun _ => ?_
  refine ite_ind (fun _ => hbind _ (handleMYINFO_inv st e h')) fun _ => ?_
  refine ite_ind (fun _ => hret _ _ (handleISUPPORT_inv st e h')) fun _ => ?_
  refine ite_ind (fun _ => hret _ _ (handleMOTD_inv st e h')) fun _ => ?_
  refine ite_ind (fun _ => hret _ _ (handleCAP_inv cfg st e h')) fun _ => ?_
  refine ite_ind (fun _ => hret _ _ (userAttr_inv st e h').1) fun _ => ?_
  refine ite_ind (fun _ => hret _ _ (userAttr_inv st e h').2.1) fun _ => ?_
  refine ite_ind (fun _ => hret _ _ (userAttr_inv st e h').2.2) fun _ => ?_
  refine ite_ind (fun _ => ⟨_, _, rfl, (handleSASL_st cfg cs e).symm ▸ h⟩) fun _ => ?_
  exact ite_ind (fun _ => hret _ _ h') fun _ => hret _ _ h'

theorem handleEvent_inv (cfg : Cfg) (cs : CState) (e : Event) (time idle : Bytes) (h : Inv cs.st) :
    ∃ cs' outs, handleEvent cfg cs e time idle = .ok (cs', outs) ∧ Inv cs'.st := by
  unfold handleEvent
  extract_lets echo cs1 ctcp jp
  have h1 : Inv cs1.st := by
    unfold cs1
    split
    · exact h
    · exact handleTags_inv _ _ h
  have hjp : ∀ x : CState × List Out, Inv x.1.st → ∃ cs' outs, jp x = .ok (cs', outs) ∧ Inv cs'.st :=
    fun ⟨_, _⟩ hx => ⟨_, _, rfl, hx⟩
  clear_value jp cs1
  split
  · exact hjp _ h1
  · obtain ⟨cs', outs, hc, hi⟩ := handleCommand_inv cfg cs1 e h1
    rw [hc]
    exact hjp _ hi

theorem applyOuts_cs (cfg : Cfg) (isURL : Bytes → Bool) : ∀ (outs : List Out) (r : Run), (applyOuts cfg isURL r outs).1.cs = r.cs
  | [], _ => rfl
  | .write _ :: rest, _ => applyOuts_cs cfg isURL rest _
  | .send _ :: rest, _ => applyOuts_cs cfg isURL rest _
  | .inject _ :: rest, r => applyOuts_cs cfg isURL rest r
  | .close :: rest, r => applyOuts_cs cfg isURL rest r

theorem stepEvent_inv (cfg : Cfg) (r : Run) (e : Event) (time idle : Bytes) (isURL : Bytes → Bool) (h : Inv r.cs.st) :
    ∃ r' inj, stepEvent cfg r e time idle isURL = .ok (r', inj) ∧ Inv r'.cs.st := by
  unfold stepEvent
  obtain ⟨cs', outs, hc, hi⟩ := handleEvent_inv cfg r.cs e time idle h
  rw [hc, ok_bind]
  dsimp only
  refine ⟨_, _, rfl, ?_⟩
  have ha : (applyOuts cfg isURL { r with cs := cs' } outs).1.cs = cs' := applyOuts_cs cfg isURL outs _
  split
  · show Inv (applyOuts cfg isURL { r with cs := cs' } outs).1.cs.st
    rw [ha]; exact hi
  · rw [ha]; exact hi

theorem stepAll_inv (cfg : Cfg) (isURL : Bytes → Bool) : ∀ (fuel : Nat) (r : Run) (queue : List Event), Inv r.cs.st →
    ∃ r', stepAll cfg isURL fuel r queue = .ok r' ∧ Inv r'.cs.st
  | 0, r, [], h => ⟨r, rfl, h⟩
  | 0, r, _ :: _, h => ⟨r, rfl, h⟩
  | _ + 1, r, [], h => ⟨r, rfl, h⟩
  | fuel + 1, r, e :: queue, h => by
    unfold stepAll
    split
    · exact ⟨r, rfl, h⟩
    · obtain ⟨r1, inj, hs, hi⟩ := stepEvent_inv cfg r e [] [] isURL h
      rw [hs, ok_bind]
      exact stepAll_inv cfg isURL fuel r1 (queue ++ inj) hi

theorem stepLine_inv (cfg : Cfg) (r : Run) (line : Bytes) (isURL : Bytes → Bool) (h : Inv r.cs.st) :
    ∃ r', stepLine cfg r line isURL = .ok r' ∧ Inv r'.cs.st := by
  unfold stepLine
  split
  · exact ⟨r, rfl, h⟩
  · split
    · exact ⟨_, rfl, h⟩
    · exact stepAll_inv cfg isURL 8 r _ h

/-- In every state a PING is answered by exactly one unthrottled PONG with the same token. -/
theorem ping_answered (cfg : Cfg) (cs : CState) (e : Event) (time idle : Bytes) (hp : e.command = cPING) :
    ∃ cs', handleEvent cfg cs e time idle = .ok (cs', [Out.write { command := cPONG, params := [e.last] }]) := by
  refine ⟨ProtocolBAux.tagged cfg cs e, ProtocolBAux.handleEvent_of_cmd cfg cs e time idle (by rw [hp]; decide) (by rw [hp]; decide) _ _ ?_⟩
  unfold handleCommand
  rw [if_pos hp]

end Girc.Proofs.InvHandlers
