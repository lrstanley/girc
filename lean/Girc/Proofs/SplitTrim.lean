import Girc.Spec.SplitSpec
import Girc.Proofs.Utf8
/-
  `strings.TrimSpace`: the result is the text without some leading and some trailing bytes, and on
  valid UTF-8 what is removed are whole runes, so the result is valid.
-/
namespace Girc.Proofs.SplitTrim
open Girc Girc.Model Girc.Spec Girc.Proofs.Utf8 Girc.Proofs.RoundtripUtf8 Girc.Proofs.SplitUtf8

theorem spaceThird_isCont {c : Byte} (h : ((0x80 ≤ c && c ≤ 0x8A) || c = 0xA8 || c = 0xA9 || c = 0xAF) = true) :
    isCont c = true := by
  simp only [Bool.or_eq_true, Bool.and_eq_true, decide_eq_true_eq] at h
  rcases h with ((⟨h1, h2⟩ | rfl) | rfl) | rfl
  · simp only [isCont, Bool.and_eq_true, decide_eq_true_eq]
    exact ⟨h1, UInt8.le_trans h2 (by decide)⟩
  all_goals decide

theorem spaceRuneLen_spec (s : Bytes) (h : spaceRuneLen s ≠ 0) :
    utf8Width s = some (spaceRuneLen s) ∧ ∃ x r, s = x :: r ∧ isLead x := by
  fun_cases spaceRuneLen s
  case case10 c tail hc =>
    refine ⟨?_, _, _, rfl, Or.inr (by decide)⟩
    simp [utf8Width, spaceThird_isCont hc]
  case case11 c tail hc =>
    rw [spaceRuneLen, if_neg hc] at h
    exact absurd rfl h
  case case14 h1 h2 h3 h4 h5 h6 h7 h8 h9 h10 h11 h12 =>
    exact absurd (spaceRuneLen.eq_13 s h1 h2 h3 h4 h5 h6 h7 h8 h9 h10 h11 h12) h
  all_goals exact ⟨rfl, _, _, rfl, by unfold isLead; decide⟩

theorem trimLeftSpace_spec : ∀ (n : Nat) (s : Bytes),
    ∃ k, trimLeftSpace n s = s.drop k ∧ (Valid s → Valid (s.drop k))
  | 0, s => ⟨0, rfl, id⟩
  | n + 1, s => by
    simp only [trimLeftSpace]
    by_cases hk : spaceRuneLen s = 0
    · rw [if_pos hk]
      exact ⟨0, rfl, id⟩
    · rw [if_neg hk]
      obtain ⟨k, hk1, hk2⟩ := trimLeftSpace_spec n (s.drop (spaceRuneLen s))
      refine ⟨spaceRuneLen s + k, by rw [hk1, List.drop_drop], fun hv => ?_⟩
      obtain ⟨hw, x, r, hs, _⟩ := spaceRuneLen_spec s hk
      obtain ⟨w, hw', hd⟩ := hv.uncons (by rw [hs]; exact List.cons_ne_nil _ _)
      rw [hw] at hw'
      cases hw'
      rw [← List.drop_drop]
      exact hk2 hd

/-- The last `n` bytes of `s` are a white-space rune. -/
def EndRune (s : Bytes) (n : Nat) : Prop := ∃ pre suf, s = pre ++ suf ∧ suf.length = n ∧ spaceRuneLen suf ≠ 0

/-- One test of `spaceRuneLenEnd`: the last `suf.length` bytes are a white-space rune, or the next test decides. -/
theorem EndRune.step {s pre suf : Bytes} {rest : Nat} (hs : s = pre ++ suf) (hk : suf ≠ [])
    (hrest : rest ≠ 0 → EndRune s rest)
    (h : (if spaceRuneLen suf = suf.length then suf.length else rest) ≠ 0) :
    EndRune s (if spaceRuneLen suf = suf.length then suf.length else rest) := by
  by_cases h1 : spaceRuneLen suf = suf.length
  · rw [if_pos h1]
    exact ⟨pre, suf, hs, rfl, by rw [h1]; exact mt List.length_eq_zero_iff.mp hk⟩
  · rw [if_neg h1] at h ⊢
    exact hrest h

theorem spaceRuneLenEnd_spec (s : Bytes) (h : spaceRuneLenEnd s ≠ 0) : EndRune s (spaceRuneLenEnd s) := by
  have hs : s = s.reverse.reverse := (List.reverse_reverse s).symm
  have h0 : (0 : Nat) ≠ 0 → EndRune s 0 := fun h => absurd rfl h
  unfold spaceRuneLenEnd at h ⊢
  generalize s.reverse = r at h hs ⊢
  rcases r with _ | ⟨c, _ | ⟨b, _ | ⟨a, rest⟩⟩⟩
  · exact absurd rfl h
  · exact EndRune.step (pre := []) (suf := [c]) hs (List.cons_ne_nil _ _) h0 h
  · exact EndRune.step (pre := []) (suf := [b, c]) hs (List.cons_ne_nil _ _)
      (EndRune.step (pre := [b]) (suf := [c]) hs (List.cons_ne_nil _ _) h0) h
  · have hs1 : s = rest.reverse ++ [a, b, c] := by rw [hs]; simp
    exact EndRune.step hs1 (List.cons_ne_nil _ _)
      (EndRune.step (pre := rest.reverse ++ [a]) (suf := [b, c]) (by rw [hs1]; simp) (List.cons_ne_nil _ _)
        (EndRune.step (pre := rest.reverse ++ [a, b]) (suf := [c]) (by rw [hs1]; simp)
          (List.cons_ne_nil _ _) h0)) h

theorem trimRightSpace_spec : ∀ (n : Nat) (s : Bytes),
    ∃ k, trimRightSpace n s = s.take k ∧ (Valid s → Valid (s.take k))
  | 0, s => ⟨s.length, (List.take_length).symm, by rw [List.take_length]; exact id⟩
  | n + 1, s => by
    simp only [trimRightSpace]
    by_cases hk : spaceRuneLenEnd s = 0
    · rw [if_pos hk]
      exact ⟨s.length, (List.take_length).symm, by rw [List.take_length]; exact id⟩
    · rw [if_neg hk]
      obtain ⟨pre, suf, hs, hlen, hsuf⟩ := spaceRuneLenEnd_spec s hk
      have htake : s.take (s.length - spaceRuneLenEnd s) = pre := by
        rw [← hlen, hs, List.length_append, Nat.add_sub_cancel, List.take_left]
      obtain ⟨k, hk1, hk2⟩ := trimRightSpace_spec n pre
      rw [htake, hk1]
      refine ⟨min k pre.length, ?_, fun hv => ?_⟩
      · rw [hs, List.take_append_of_le_length (Nat.min_le_right _ _), List.take_eq_take_min]
      · obtain ⟨_, x, r, hx, hlead⟩ := spaceRuneLen_spec suf hsuf
        have hpre : Valid pre := hv.cut_lead pre x r (by rw [hs, hx]) hlead
        rw [hs, List.take_append_of_le_length (Nat.min_le_right _ _), ← List.take_eq_take_min]
        exact hk2 hpre

theorem trimSpace_spec (s : Bytes) :
    ∃ j k, trimSpace s = (s.drop j).take k ∧ (Valid s → Valid (trimSpace s)) := by
  obtain ⟨j, hj1, hj2⟩ := trimLeftSpace_spec s.length s
  obtain ⟨k, hk1, hk2⟩ := trimRightSpace_spec s.length (s.drop j)
  refine ⟨j, k, ?_, fun hv => ?_⟩ <;> unfold trimSpace <;> rw [hj1, hk1]
  exact hk2 (hj2 hv)

theorem mem_trimSpace (s : Bytes) : ∀ b ∈ trimSpace s, b ∈ s := by
  obtain ⟨j, k, h, _⟩ := trimSpace_spec s
  rw [h]
  exact fun b hb => List.mem_of_mem_drop (List.mem_of_mem_take hb)

theorem length_trimSpace_le (s : Bytes) : (trimSpace s).length ≤ s.length := by
  obtain ⟨j, k, h, _⟩ := trimSpace_spec s
  rw [h, List.length_take, List.length_drop]
  omega

theorem valid_trimSpace (s : Bytes) (h : Valid s) : Valid (trimSpace s) :=
  (trimSpace_spec s).choose_spec.choose_spec.2 h

end Girc.Proofs.SplitTrim
