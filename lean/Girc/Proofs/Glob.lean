import Girc.Model.Glob
import Girc.Spec.GlobSpec
import Girc.Proofs.BytesLemmas
/-
  C19. After its first piece `glob` is the greedy matcher `greedy`: each middle piece is taken at its leftmost
  occurrence. That loses nothing, because the remainder after the leftmost occurrence has every other
  remainder as a suffix (`findSub_leftmost`); so `greedy` decides the existence of gaps (`greedy_iff`).
-/
namespace Girc.Proofs.Glob
open Girc Girc.Model Girc.Proofs.BytesLemmas

theorem findSub_some {p : Bytes} : ∀ {s : Bytes} {i : Nat}, findSub p s = some i →
    ∃ a b, s = a ++ p ++ b ∧ a.length = i
  | [], i, h => by
    rw [findSub] at h
    by_cases hp : p = []
    · rw [if_pos hp] at h
      cases h
      exact ⟨[], [], by rw [hp]; rfl, rfl⟩
    · rw [if_neg hp] at h; cases h
  | x :: xs, i, h => by
    rw [findSub] at h
    by_cases hpre : p.isPrefixOf (x :: xs) = true
    · rw [if_pos hpre] at h
      cases h
      obtain ⟨b, hb⟩ := List.isPrefixOf_iff_prefix.mp hpre
      exact ⟨[], b, hb.symm, rfl⟩
    · rw [if_neg hpre] at h
      obtain ⟨j, hj, rfl⟩ := Option.map_eq_some_iff.mp h
      obtain ⟨a, b, hs, ha⟩ := findSub_some hj
      exact ⟨x :: a, b, by rw [hs]; rfl, by rw [List.length_cons, ha]⟩

theorem findSub_of_prefix {p s : Bytes} (h : p <+: s) : findSub p s = some 0 := by
  cases s with
  | nil => rw [findSub, if_pos (List.prefix_nil.mp h)]
  | cons x xs => rw [findSub, if_pos (List.isPrefixOf_iff_prefix.mpr h)]

theorem findSub_of_occ {p : Bytes} : ∀ (a : Bytes) {s b : Bytes}, s = a ++ p ++ b →
    ∃ i, findSub p s = some i ∧ i ≤ a.length
  | [], _, b, h => ⟨0, findSub_of_prefix ⟨b, h.symm⟩, Nat.le_refl 0⟩
  | y :: a, s, b, h => by
    subst h
    rw [List.cons_append, List.cons_append, findSub]
    by_cases hpre : p.isPrefixOf (y :: (a ++ p ++ b)) = true
    · exact ⟨0, if_pos hpre, Nat.zero_le _⟩
    · obtain ⟨i, hi, hle⟩ := findSub_of_occ a (s := a ++ p ++ b) (b := b) rfl
      exact ⟨i + 1, by rw [if_neg hpre, hi]; rfl, Nat.succ_le_succ hle⟩

/-- The remainder after the leftmost occurrence has every other remainder as a suffix. -/
theorem findSub_leftmost {p s a b : Bytes} (h : s = a ++ p ++ b) :
    ∃ i x, findSub p s = some i ∧ s.drop (i + p.length) = x ++ b := by
  obtain ⟨i, hi, hle⟩ := findSub_of_occ a h
  refine ⟨i, (s.drop (i + p.length)).take (a.length - i), hi, ?_⟩
  have hb : b = (s.drop (i + p.length)).drop (a.length - i) := by
    rw [List.drop_drop]
    have : i + p.length + (a.length - i) = (a ++ p).length := by simp; omega
    rw [this, h, List.drop_left]
  conv => rhs; rw [hb]
  exact (List.take_append_drop _ _).symm

/-- `s` matches the pieces after an arbitrary leading gap. -/
def GapMatch (l : List Bytes) (s : Bytes) : Prop :=
  ∃ g rest, s = g ++ rest ∧ Spec.MatchesPieces l rest

theorem GapMatch.mono {l : List Bytes} {t : Bytes} (x : Bytes) (h : GapMatch l t) :
    GapMatch l (x ++ t) := by
  obtain ⟨g, rest, ht, hm⟩ := h
  exact ⟨x ++ g, rest, by simp [ht], hm⟩

theorem matchesPieces_cons2 (p q : Bytes) (ps : List Bytes) (s : Bytes) :
    Spec.MatchesPieces (p :: q :: ps) s ↔
      ∃ g rest, s = p ++ g ++ rest ∧ Spec.MatchesPieces (q :: ps) rest := Iff.rfl

theorem isSuffixOfB_iff (p s : Bytes) : isSuffixOfB p s = true ↔ ∃ g, s = g ++ p := by
  unfold isSuffixOfB
  rw [List.isPrefixOf_iff_prefix, List.reverse_prefix]
  constructor
  · rintro ⟨g, hg⟩; exact ⟨g, hg.symm⟩
  · rintro ⟨g, hg⟩; exact ⟨g, hg.symm⟩

def greedy (more : List Bytes) (s : Bytes) : Bool :=
  match globMiddle more.dropLast s with
  | none => false
  | some rest => isSuffixOfB (more.getLastD []) rest

theorem greedy_single (p s : Bytes) : greedy [p] s = isSuffixOfB p s := by
  simp [greedy, globMiddle]

theorem greedy_cons2 (p q : Bytes) (ps : List Bytes) (s : Bytes) :
    greedy (p :: q :: ps) s =
      match findSub p s with
      | none => false
      | some i => greedy (q :: ps) (s.drop (i + p.length)) := by
  simp only [greedy, List.dropLast_cons_cons, globMiddle]
  cases findSub p s with
  | none => rfl
  | some i => simp [List.getLastD]

theorem greedy_iff : ∀ (q : Bytes) (ps : List Bytes) (s : Bytes),
    greedy (q :: ps) s = true ↔ GapMatch (q :: ps) s
  | p, [], s => by
    rw [greedy_single, isSuffixOfB_iff]
    constructor
    · rintro ⟨g, hg⟩; exact ⟨g, p, hg, rfl⟩
    · rintro ⟨g, rest, hs, hm⟩
      have : rest = p := hm
      exact ⟨g, by rw [hs, this]⟩
  | p, q :: ps, s => by
    rw [greedy_cons2]
    constructor
    · intro h
      cases hf : findSub p s with
      | none => simp [hf] at h
      | some i =>
        simp only [hf] at h
        obtain ⟨a, b, hs, ha⟩ := findSub_some hf
        have hb : s.drop (i + p.length) = b := by
          have : i + p.length = (a ++ p).length := by simp [ha]
          rw [this, hs, List.drop_left]
        rw [hb] at h
        obtain ⟨g', rest', hb', hm⟩ := (greedy_iff q ps b).mp h
        refine ⟨a, p ++ g' ++ rest', ?_, ?_⟩
        · simp [hs, hb']
        · exact ⟨g', rest', rfl, hm⟩
    · rintro ⟨g, rest, hs, g', rest', hrest, hm⟩
      have hocc : s = g ++ p ++ (g' ++ rest') := by simp [hs, hrest]
      obtain ⟨i, x, hi, hx⟩ := findSub_leftmost hocc
      simp only [hi]
      rw [greedy_iff q ps, hx]
      exact GapMatch.mono x ⟨g', rest', rfl, hm⟩

theorem matches_cons2_iff (first q : Bytes) (ps : List Bytes) (s : Bytes) :
    Spec.MatchesPieces (first :: q :: ps) s ↔
      (first.isPrefixOf s = true ∧ greedy (q :: ps) (s.drop first.length) = true) := by
  rw [matchesPieces_cons2, greedy_iff, List.isPrefixOf_iff_prefix]
  constructor
  · rintro ⟨g, rest, hs, hm⟩
    refine ⟨⟨g ++ rest, by simp [hs]⟩, g, rest, ?_, hm⟩
    rw [hs, List.append_assoc, List.drop_left]
  · rintro ⟨⟨t, ht⟩, g, rest, hd, hm⟩
    refine ⟨g, rest, ?_, hm⟩
    rw [← ht, List.drop_left] at hd
    rw [← ht, hd, List.append_assoc]

theorem tail_eq_greedy (more : List Bytes) (s : Bytes) (trailing : Bool)
    (h : trailing = true → more.getLastD [] = []) :
    (match globMiddle more.dropLast s with
      | none => false
      | some rest => trailing || isSuffixOfB (more.getLastD []) rest) = greedy more s := by
  unfold greedy
  cases globMiddle more.dropLast s with
  | none => rfl
  | some rest =>
    cases trailing with
    | false => simp
    | true =>
      simp only [Bool.true_or]
      rw [h rfl]
      exact ((isSuffixOfB_iff [] rest).mpr ⟨rest, by simp⟩).symm

theorem glob_correct (input pat : Bytes) : glob input pat = true ↔ Spec.Matches input pat := by
  unfold glob Spec.Matches Spec.pieces
  rw [show Spec.star = star from rfl]
  by_cases h0 : pat = []
  · subst h0
    simp [splitOnByte, Spec.MatchesPieces]
  rw [if_neg h0]
  by_cases h1 : pat = [star]
  · subst h1
    rw [if_pos rfl, splitOnByte_cons_sep]
    exact ⟨fun _ => ⟨input, [], by simp, rfl⟩, fun _ => rfl⟩
  rw [if_neg h1]
  cases hsp : splitOnByte star pat with
  | nil => exact absurd hsp (splitOnByte_ne_nil _ _)
  | cons first more =>
    cases more with
    | nil =>
      rw [splitOnByte_single _ _ _ hsp]
      simp [Spec.MatchesPieces]
    | cons q ps =>
      dsimp only
      have hlead : pat.head? = some star → first = [] := by
        intro hh
        cases pat with
        | nil => cases hh
        | cons x xs =>
          rw [List.head?_cons, Option.some.injEq] at hh
          rw [hh, splitOnByte_cons_sep] at hsp
          exact (List.cons.inj hsp).1.symm
      have htrail : decide (pat.getLast? = some star) = true → (q :: ps).getLastD [] = [] := by
        intro hh
        obtain ⟨p, init, hi⟩ := splitOnByte_getLast star pat (of_decide_eq_true hh)
        rw [hsp] at hi
        rw [(List.cons.inj hi).2]
        exact List.getLastD_concat
      have key := congrArg (· = true)
        (tail_eq_greedy (q :: ps) (input.drop first.length) (decide (pat.getLast? = some star)) htrail)
      rw [matches_cons2_iff]
      by_cases hl : pat.head? = some star
      · rw [hlead hl] at key ⊢
        simp only [hl, decide_true, Bool.not_true, Bool.false_and, Bool.false_eq_true, if_false]
        exact (iff_of_eq key).trans (by simp)
      · cases first.isPrefixOf input
        · simp [hl]
        · simp only [hl, decide_false, Bool.not_false, Bool.not_true, Bool.and_false, Bool.false_eq_true, if_false]
          exact (iff_of_eq key).trans (by simp)

theorem anySuffix_iff (f : Bytes → Bool) : ∀ s : Bytes,
    Spec.anySuffix f s = true ↔ ∃ g t, s = g ++ t ∧ f t = true
  | [] => ⟨fun h => ⟨[], [], rfl, h⟩,
      fun ⟨g, t, hs, hf⟩ => by rw [(List.nil_eq_append_iff.mp hs).2] at hf; exact hf⟩
  | c :: cs => by
    simp only [Spec.anySuffix, Bool.or_eq_true, anySuffix_iff f cs, List.cons_eq_append_iff]
    constructor
    · rintro (h | ⟨g, t, hs, hf⟩)
      · exact ⟨[], c :: cs, Or.inl ⟨rfl, rfl⟩, h⟩
      · exact ⟨c :: g, t, Or.inr ⟨g, rfl, hs⟩, hf⟩
    · rintro ⟨g, t, ⟨rfl, rfl⟩ | ⟨g', rfl, hs⟩, hf⟩
      · exact Or.inl hf
      · exact Or.inr ⟨g', t, hs, hf⟩

theorem matchesPieces_cons_byte (c : Byte) (p : Bytes) (ps : List Bytes) (s : Bytes) :
    Spec.MatchesPieces ((c :: p) :: ps) s ↔ ∃ cs, s = c :: cs ∧ Spec.MatchesPieces (p :: ps) cs := by
  cases ps with
  | nil => simp only [Spec.MatchesPieces, exists_eq_right]
  | cons q ps =>
    simp only [matchesPieces_cons2, List.cons_append]
    exact ⟨fun ⟨g, rest, hs, hm⟩ => ⟨_, hs, g, rest, rfl, hm⟩,
      fun ⟨_, hs, g, rest, hcs, hm⟩ => ⟨g, rest, hcs ▸ hs, hm⟩⟩

theorem wmatch_iff : ∀ (pat s : Bytes),
    Spec.wmatch pat s = true ↔ Spec.MatchesPieces (splitOnByte star pat) s
  | [], s => by
    simp [Spec.wmatch, splitOnByte, Spec.MatchesPieces]
  | c :: pat, s => by
    have hstar : Spec.star = star := rfl
    by_cases hc : c = star
    · subst hc
      rw [splitOnByte_cons_sep]
      simp only [Spec.wmatch, hstar, if_true]
      rw [anySuffix_iff]
      cases hsp : splitOnByte star pat with
      | nil => exact absurd hsp (splitOnByte_ne_nil _ _)
      | cons q ps =>
        rw [matchesPieces_cons2]
        simp only [wmatch_iff pat, hsp, List.nil_append]
    · cases hsp : splitOnByte star pat with
      | nil => exact absurd hsp (splitOnByte_ne_nil _ _)
      | cons q ps =>
        rw [splitOnByte_cons_ne hc hsp, matchesPieces_cons_byte]
        cases s with
        | nil => simp [Spec.wmatch, hstar, hc]
        | cons x xs =>
          simp only [Spec.wmatch, hstar, hc, if_false, Bool.and_eq_true, decide_eq_true_eq,
            wmatch_iff pat, hsp, List.cons.injEq, and_assoc, exists_and_left, exists_eq_left']

end Girc.Proofs.Glob
