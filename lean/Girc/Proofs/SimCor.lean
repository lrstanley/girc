import Girc.Proofs.SimMain
/-
  C04, channel modes: the four CHANMODES classes and PREFIX as the reference model reads them, a mode set by
  '+x' is reported until '-x', and mode arguments follow the classes.
-/
namespace Girc.Proofs.SimCor
open Girc Girc.Model Girc.Spec
open Girc.Proofs.InvBase Girc.Proofs.SimBase Girc.Proofs.SimMode Girc.Proofs.SimAMap

/-- The four CHANMODES classes and PREFIX of a channel, as the reference model reads them. -/
def isListMode (ch : RChan) (f : Byte) : Bool := !ch.chanmodes.isEmpty && (splitN4 ch.chanmodes).1.contains f
def isArgMode (ch : RChan) (f : Byte) : Bool :=
  !ch.chanmodes.isEmpty && !(splitN4 ch.chanmodes).1.contains f && (splitN4 ch.chanmodes).2.1.contains f
def isSetArgMode (ch : RChan) (f : Byte) : Bool :=
  !ch.chanmodes.isEmpty && !(splitN4 ch.chanmodes).1.contains f && !(splitN4 ch.chanmodes).2.1.contains f &&
    (splitN4 ch.chanmodes).2.2.1.contains f
def isPrivMode (ch : RChan) (f : Byte) : Bool :=
  !ch.chanmodes.isEmpty && !(splitN4 ch.chanmodes).1.contains f && !(splitN4 ch.chanmodes).2.1.contains f &&
    !(splitN4 ch.chanmodes).2.2.1.contains f && ch.prefixModes.contains f
/-- Everything else is a plain setting (class D, or any letter when the server announced no classes). -/
def isPlainMode (ch : RChan) (f : Byte) : Bool :=
  !isListMode ch f && !isArgMode ch f && !isSetArgMode ch f && !isPrivMode ch f

theorem modeBits_cls (ch : RChan) (f : Byte) :
    isListMode ch f = (match rcls ch f with | .list => true | _ => false) ∧
    isArgMode ch f = (match rcls ch f with | .arg => true | _ => false) ∧
    isSetArgMode ch f = (match rcls ch f with | .setArg => true | _ => false) ∧
    isPrivMode ch f = (match rcls ch f with | .priv => true | _ => false) := by
  unfold isListMode isArgMode isSetArgMode isPrivMode rcls
  cases ch.chanmodes.isEmpty
  · cases (splitN4 ch.chanmodes).1.contains f
    · cases (splitN4 ch.chanmodes).2.1.contains f
      · cases (splitN4 ch.chanmodes).2.2.1.contains f
        · cases ch.prefixModes.contains f <;> exact ⟨rfl, rfl, rfl, rfl⟩
        · exact ⟨rfl, rfl, rfl, rfl⟩
      · exact ⟨rfl, rfl, rfl, rfl⟩
    · exact ⟨rfl, rfl, rfl, rfl⟩
  · exact ⟨rfl, rfl, rfl, rfl⟩

theorem mem_rset (f : Byte) (ms : List (Byte × Bytes)) (a : Bytes) : (f, a) ∈ rset f ms a := by
  unfold rset
  split
  · next hany =>
    obtain ⟨m, hm, hmf⟩ := List.any_eq_true.mp hany
    exact List.mem_map.mpr ⟨m, hm, by rw [if_pos (of_decide_eq_true hmf)]⟩
  · exact List.mem_append_right _ (List.mem_singleton.mpr rfl)

theorem mem_rset_other {f g : Byte} (hfg : g ≠ f) {ms : List (Byte × Bytes)} {a : Bytes} (b : Bytes)
    (hm : (f, a) ∈ ms) : (f, a) ∈ rset g ms b := by
  unfold rset
  split
  · exact List.mem_map.mpr ⟨(f, a), hm, by rw [if_neg (fun h : f = g => hfg h.symm)]⟩
  · exact List.mem_append_left _ hm

theorem mem_runset_other {f g : Byte} (hfg : g ≠ f) {ms : List (Byte × Bytes)} {a : Bytes}
    (hm : (f, a) ∈ ms) : (f, a) ∈ runset g ms :=
  List.mem_filter.mpr ⟨hm, bne_iff_ne.mpr fun h : f = g => hfg h.symm⟩

theorem not_mem_runset (f : Byte) (ms : List (Byte × Bytes)) (a : Bytes) : (f, a) ∉ runset f ms :=
  fun h => bne_iff_ne.mp (List.mem_filter.mp h).2 rfl

theorem takeArg_fst (args : List Bytes) : (takeArg args).1 = args.headD [] := by cases args <;> rfl
theorem takeArg_snd (args : List Bytes) : (takeArg args).2 = args.tail := by cases args <;> rfl

/-- The mode string the state API shows lists exactly the reported settings: after the "+" come the letters, each in
    the spelling of the API's `string` type (`Go.strOfByte`). -/
theorem modesString_letters (ms : List (Byte × Bytes)) (hne : ms ≠ []) :
    (modesString ms).take ((ms.flatMap fun m => Go.strOfByte m.1).length + 1) =
      0x2B :: ms.flatMap (fun m => Go.strOfByte m.1) := by
  unfold modesString
  have hpos : ms.length > 0 := List.length_pos_iff.mpr hne
  rw [if_pos hpos, List.append_assoc, List.singleton_append, List.take_succ_cons]
  rw [List.take_append_of_le_length (Nat.le_refl _), List.take_of_length_le (Nat.le_refl _)]

/-- … which for ASCII letters (all a server can announce in CHANMODES) is the letters themselves. -/
theorem modesString_letters_ascii (ms : List (Byte × Bytes)) (hne : ms ≠ []) (ha : ∀ m ∈ ms, m.1 < 0x80) :
    (modesString ms).take (ms.length + 1) = 0x2B :: ms.map (·.1) := by
  have e : ms.flatMap (fun m => Go.strOfByte m.1) = ms.map (·.1) := by
    clear hne
    induction ms with
    | nil => rfl
    | cons m ms ih =>
      have hm : m.1 < 0x80 := ha m (by simp)
      rw [List.flatMap_cons, List.map_cons, ih (fun x hx => ha x (by simp [hx]))]
      unfold Go.strOfByte
      simp [hm]
  have h := modesString_letters ms hne
  rw [e, List.length_map] at h
  exact h

end Girc.Proofs.SimCor
