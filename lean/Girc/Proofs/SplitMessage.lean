import Girc.Proofs.SplitPack
import Girc.Proofs.SplitNL
/-
  C11. Packing one word keeps every line within `maxWidth` bytes (`SplitFits.packWord_fits`, from which
  `Props.C11.split_fits` follows along the word loop) and adds consecutive non-empty chunks of the word to the
  words of the lines (`packWord_content`), so that on plain text the words of the pieces refine the words of the
  text (`split_content`). `SplitEvent`: the shape of what `Event.split` returns.
-/
namespace Girc.Proofs.SplitFits
open Girc Girc.Model Girc.Spec Girc.Proofs.Utf8 Girc.Proofs.RoundtripUtf8 Girc.Proofs.SplitUtf8
open Girc.Proofs.SplitPack Girc.Proofs.SplitWords

theorem sepOf_length_le (cur : Bytes) : (sepOf cur).length ≤ 1 := by
  unfold sepOf; split <;> simp

theorem packWord_fits (isURL : Bytes → Bool) (w : Nat) (hw : 4 ≤ w) (fuel : Nat) (front : List Bytes)
    (cur word : Bytes) (hf : ∀ l ∈ front, l.length ≤ w) (hc : cur.length ≤ w) :
    ∀ l ∈ packWord isURL w [] fuel (front ++ [cur]) word, l.length ≤ w := by
  refine packWord_cases isURL w hw
    (fun _ front cur _ r => (∀ l ∈ front, l.length ≤ w) → cur.length ≤ w → ∀ l ∈ r, l.length ≤ w)
    ?_ ?_ ?_ ?_ ?_ fuel front cur word hf hc
  · intro front cur word hf hc
    exact mem_concat front cur hf hc
  · intro fuel front cur word hfit hf hc
    exact mem_concat front _ hf (by simp only [List.length_append]; omega)
  · intro fuel front cur word r hce ih hf hc
    exact ih (mem_concat front cur hf hc) (Nat.zero_le _)
  · intro fuel front cur word j r hj hjw hsym ih hf hc
    apply ih hf
    simp only [List.length_append, List.length_take]
    omega
  · intro fuel front cur word cut r hcut hle hrest ih hf hc
    refine ih (mem_concat front _ hf ?_) (Nat.zero_le _)
    simp only [List.length_append, List.length_take]
    omega

end Girc.Proofs.SplitFits

namespace Girc.Proofs.SplitContent
open Girc Girc.Model Girc.Spec Girc.Proofs.Utf8 Girc.Proofs.RoundtripUtf8 Girc.Proofs.SplitUtf8
open Girc.Proofs.SplitPack Girc.Proofs.SplitWords Girc.Proofs.SplitSep

theorem pieceWords_append (a b : List Bytes) : pieceWords (a ++ b) = pieceWords a ++ pieceWords b := by
  simp [pieceWords]

theorem pieceWords_cons (l : Bytes) (a : List Bytes) : pieceWords (l :: a) = splitWords l ++ pieceWords a :=
  List.flatMap_cons

theorem pieceWords_single (l : Bytes) : pieceWords [l] = splitWords l := by
  simp [pieceWords]

theorem pieceWords_nil_line (a : List Bytes) : pieceWords (a ++ [[]]) = pieceWords a := by
  rw [pieceWords_append, pieceWords_single, splitWords_nil, List.append_nil]

theorem symbol_ascii (b : Byte) (h : symbolBytes.contains b = true) : b < 0x80 :=
  of_decide_eq_true
    (List.all_eq_true.mp (by decide : symbolBytes.all (· < 0x80) = true) b (List.contains_iff_mem.mp h))

theorem valid_sepOf (cur : Bytes) : Valid (sepOf cur) := by
  unfold sepOf; split
  · exact Valid.nil
  · exact valid_single SP (by decide)

theorem line_append (front : List Bytes) (cur chunk : Bytes) (hne : chunk ≠ []) (hs : sepFree chunk = true) :
    pieceWords (front ++ [cur ++ sepOf cur ++ chunk]) = pieceWords (front ++ [cur]) ++ [chunk] := by
  rw [pieceWords_append, pieceWords_append, pieceWords_single, pieceWords_single, List.append_assoc (pieceWords front)]
  congr 1
  cases cur with
  | nil => exact splitWords_sepFree_ne chunk hne hs
  | cons b r =>
    show splitWords (b :: r ++ [SP] ++ chunk) = _
    rw [List.append_assoc, List.singleton_append, splitWords_append_SP, splitWords_sepFree_ne chunk hne hs]

theorem valid_line (cur chunk : Bytes) (hc : Valid cur) (hk : Valid chunk) :
    Valid (cur ++ sepOf cur ++ chunk) :=
  (hc.append (valid_sepOf cur)).append hk

theorem valid_cut_after {word : Bytes} {j : Nat} {b : Byte} (hv : Valid word) (hb : word[j]? = some b)
    (hlt : b < 0x80) : Valid (word.take (j + 1)) ∧ Valid (word.drop (j + 1)) := by
  obtain ⟨hjl, hbj⟩ := List.getElem?_eq_some_iff.mp hb
  have hword : word.take j ++ b :: word.drop (j + 1) = word := by
    rw [← hbj, ← List.drop_eq_getElem_cons hjl, List.take_append_drop]
  have hvs := (show Valid (word.take j ++ b :: word.drop (j + 1)) by rw [hword]; exact hv).split_lead
    (Or.inr ⟨b, _, rfl, Or.inl hlt⟩)
  refine ⟨?_, (valid_single b hlt).drop_prefix _ hvs.2⟩
  rw [List.take_add_one, hb]
  exact hvs.1.append (valid_single b hlt)

/-- The lines `r` have the words `ps` followed by non-empty consecutive chunks of `word`, and are valid. -/
def Chunked (ps : List Bytes) (word : Bytes) (r : List Bytes) : Prop :=
  (∃ cs, pieceWords r = ps ++ cs ∧ cs.flatten = word ∧ cs ≠ [] ∧ ∀ c ∈ cs, c ≠ []) ∧ ∀ l ∈ r, Valid l

theorem Chunked.one {ps : List Bytes} {word : Bytes} {r : List Bytes} (h : pieceWords r = ps ++ [word])
    (hne : word ≠ []) (hv : ∀ l ∈ r, Valid l) : Chunked ps word r :=
  ⟨⟨[word], h, List.flatten_singleton, List.cons_ne_nil _ _, List.forall_mem_singleton.mpr hne⟩, hv⟩

theorem Chunked.cut {ps : List Bytes} {word : Bytes} {r : List Bytes} (k : Nat) (hne : word.take k ≠ [])
    (h : Chunked (ps ++ [word.take k]) (word.drop k) r) : Chunked ps word r := by
  obtain ⟨⟨cs, h1, h2, _, h4⟩, hv⟩ := h
  refine ⟨⟨word.take k :: cs, ?_, ?_, List.cons_ne_nil _ _, List.forall_mem_cons.mpr ⟨hne, h4⟩⟩, hv⟩
  · rw [h1, List.append_assoc, List.singleton_append]
  · rw [List.flatten_cons, h2, List.take_append_drop]

theorem take_ne_nil {word : Bytes} {k : Nat} (hk : 0 < k) (hne : word ≠ []) : word.take k ≠ [] := by
  intro h
  rcases List.take_eq_nil_iff.mp h with h | h
  · omega
  · exact hne h

theorem packWord_content (isURL : Bytes → Bool) (w : Nat) (hw : 4 ≤ w) (fuel : Nat) (front : List Bytes)
    (cur word : Bytes) (hne : word ≠ []) (hsf : sepFree word = true) (hv : Valid word)
    (hf : ∀ l ∈ front, Valid l) (hc : Valid cur)
    (hfuel : 2 * word.length + (if cur.isEmpty then 0 else 1) < fuel) :
    Chunked (pieceWords (front ++ [cur])) word (packWord isURL w [] fuel (front ++ [cur]) word) := by
  refine packWord_cases isURL w hw
    (fun fuel front cur word r => word ≠ [] → sepFree word = true → Valid word →
      (∀ l ∈ front, Valid l) → Valid cur → 2 * word.length + (if cur.isEmpty then 0 else 1) < fuel →
      Chunked (pieceWords (front ++ [cur])) word r)
    ?_ ?_ ?_ ?_ ?_ fuel front cur word hne hsf hv hf hc hfuel
  · intro front cur word _ _ _ _ _ h
    omega
  · intro fuel front cur word _ hne hsf hv hf hc _
    exact Chunked.one (line_append front cur word hne hsf) hne (mem_concat front _ hf (valid_line cur word hc hv))
  · intro fuel front cur word r hce ih hne hsf hv hf hc hfuel
    rw [← pieceWords_nil_line]
    refine ih hne hsf hv (mem_concat front cur hf hc) Valid.nil ?_
    rw [List.isEmpty_eq_false_iff.mpr hce] at hfuel
    simp only [List.isEmpty_nil, if_true, Bool.false_eq_true, if_false] at hfuel ⊢
    omega
  · intro fuel front cur word j r hj hjw hsym ih hne hsf hv hf hc hfuel
    obtain ⟨b, hb, hbs⟩ := hsym
    obtain ⟨hvt, hvd⟩ := valid_cut_after hv hb (symbol_ascii b hbs)
    have hne1 : word.take (j + 1) ≠ [] := take_ne_nil (Nat.succ_pos j) hne
    refine Chunked.cut (j + 1) hne1 ?_
    rw [← line_append front cur _ hne1 (sepFree_take _ _ hsf)]
    refine ih (by rw [Ne, List.drop_eq_nil_iff]; omega) (sepFree_drop _ _ hsf) hvd hf
      (valid_line cur _ hc hvt) ?_
    rw [List.length_drop]
    split <;> split at hfuel <;> omega
  · intro fuel front cur word cut r hcut _ hrest ih hne hsf hv hf hc hfuel
    obtain ⟨hpos, _, hvt, hvd⟩ := hcut ▸ cutLen_valid word _ hv hne
    have hne1 : word.take cut ≠ [] := take_ne_nil hpos hne
    refine Chunked.cut cut hne1 ?_
    rw [← line_append front cur _ hne1 (sepFree_take _ _ hsf), ← pieceWords_nil_line]
    refine ih hrest (sepFree_drop _ _ hsf) hvd (mem_concat front _ hf (valid_line cur _ hc hvt)) Valid.nil ?_
    rw [List.length_drop]
    simp only [List.isEmpty_nil, if_true]
    split at hfuel <;> omega

theorem pieceWords_filter : ∀ out : List Bytes,
    pieceWords (out.filter (fun l => !l.isEmpty)) = pieceWords out
  | [] => rfl
  | [] :: out => by
    rw [List.filter_cons_of_neg (by simp), pieceWords_filter out]
    rfl
  | (b :: r) :: out => by
    rw [List.filter_cons_of_pos (by simp), pieceWords_cons, pieceWords_cons, pieceWords_filter out]

theorem Refines.concat {ps ws : List Bytes} {cs : List Bytes} {word : Bytes} (h : Refines ps ws)
    (h2 : cs.flatten = word) (h3 : cs ≠ []) (h4 : ∀ c ∈ cs, c ≠ []) : Refines (ps ++ cs) (ws ++ [word]) := by
  obtain ⟨chunks, g1, g2, g3⟩ := h
  refine ⟨chunks ++ [cs], ?_, ?_, mem_concat chunks cs g3 ⟨h3, h4⟩⟩
  · rw [List.map_append, g1, List.map_singleton, h2]
  · rw [List.flatten_append, g2, List.flatten_singleton]

theorem split_content (isURL : Bytes → Bool) (t : Bytes) (w : Nat) (hp : plainText t = true) (hw : 4 ≤ w) :
    Refines (pieceWords (splitMessage isURL t w)) (wordsOf t) := by
  -- invariant of the word loop: the lines' words refine the non-empty words consumed, and the lines are valid
  obtain ⟨href, hval⟩ := splitLoop_plain isURL w hw (fun wd => sepFree wd = true ∧ Valid wd)
    (fun d out => Refines (pieceWords out) (d.filter (fun x => !x.isEmpty)) ∧ ∀ l ∈ out, Valid l)
    (fun d out h => by rw [List.filter_append]; simpa using h)
    (fun d out h => by
      rw [List.filter_append, pieceWords_nil_line]
      exact ⟨by simpa using h.1, mem_concat out [] h.2 Valid.nil⟩)
    (fun d front cur word hne hq h => by
      obtain ⟨⟨cs, h1, h2, h3, h4⟩, hv⟩ := packWord_content isURL w hw (2 * word.length + 4) front cur word hne hq.1 hq.2
        (fun l hl => h.2 l (List.mem_append_left _ hl))
        (h.2 cur (List.mem_append_right _ (List.mem_singleton_self _))) (by split <;> omega)
      refine ⟨?_, hv⟩
      rw [h1, List.filter_append, List.filter_cons_of_pos (by simpa using hne)]
      exact Refines.concat h.1 h2 h3 h4)
    _ [] [[]] (fun wd hwd => ⟨words_plain t hp _ wd hwd, words_good t _ wd hwd⟩) (List.cons_ne_nil _ _)
    ⟨⟨[], rfl, rfl, fun _ h => nomatch h⟩, fun l hl => by rw [List.mem_singleton.mp hl]; exact Valid.nil⟩
  rw [List.nil_append, words_filter] at href
  have hid : (List.filter (fun l => !l.isEmpty) (splitLoop isURL w _ {} [[]])).map (toValidUTF8 [0x3F]) = _ :=
    List.map_id'' (fun _ => rfl) _ ▸ List.map_congr_left
      (fun l hl => toValidUTF8_of_Valid _ _ (hval l (List.mem_filter.mp hl).1))
  unfold splitMessage
  dsimp only
  rw [hid, pieceWords_filter]
  exact href

end Girc.Proofs.SplitContent

namespace Girc.Proofs.SplitEvent
open Girc Girc.Model Girc.Spec

/-- `Event.split` returns the event itself, or one copy per piece of the text (of the CTCP text, in its
    wrapping), which differ from the event in the last parameter only. -/
theorem eventSplit_shape (isURL : Bytes → Bool) (e : Event) (maxLength : Int) :
    eventSplit isURL e maxLength = [e] ∨ (1 ≤ e.params.length ∧ ∃ (wrap : Bytes → Bytes) (text : Bytes) (w : Nat),
      eventSplit isURL e maxLength = ((splitMessage isURL text w).map fun piece =>
        { e with params := e.params.dropLast ++ [wrap piece] }) ∧
      match decodeCTCP e with
      | some c => wrap = fun piece => [ctcpDelim] ++ c.command ++ [SP] ++ piece ++ [ctcpDelim]
      | none => wrap = id ∧ text = e.params.getLastD [] ∧
        w = (maxLength - (eventLen { e with source := none, params := e.params.dropLast ++ [[]] } : Int)).toNat) := by
  unfold eventSplit
  by_cases h0 : (decide (e.params.length < 1) || e.command != PRIVMSG && e.command != NOTICE) = true
  · rw [if_pos h0]; exact Or.inl rfl
  have hlen : 1 ≤ e.params.length := by
    simp only [Bool.or_eq_true, decide_eq_true_eq, not_or] at h0
    omega
  rw [if_neg h0]
  dsimp only
  by_cases h1 : (eventLen { e with source := none } : Int) < maxLength
  · rw [if_pos h1]; exact Or.inl rfl
  rw [if_neg h1]
  cases decodeCTCP e with
  | some c =>
    dsimp only
    by_cases h2 : (e.params.getLastD []).isEmpty = true
    · rw [if_pos h2]; exact Or.inl rfl
    rw [if_neg h2]
    split
    · exact Or.inl rfl
    · exact Or.inr ⟨hlen, _, _, _, rfl, rfl⟩
  | none =>
    dsimp only
    split
    · exact Or.inl rfl
    · exact Or.inr ⟨hlen, _, _, _, rfl, rfl, rfl, rfl⟩

theorem paramsLen_cons_cons (a b : Bytes) (l : List Bytes) :
    paramsLen (a :: b :: l) = 1 + a.length + paramsLen (b :: l) := rfl

theorem paramsLen_concat_le (x : Bytes) : ∀ init : List Bytes,
    paramsLen (init ++ [x]) ≤ paramsLen (init ++ [[]]) + x.length
  | [] => by
    simp only [List.nil_append, paramsLen]
    have : needsColon [] = true := rfl
    rw [this]
    split <;> simp <;> omega
  | [a] => by
    simp only [List.cons_append, List.nil_append, paramsLen_cons_cons]
    have := paramsLen_concat_le x []
    simp only [List.nil_append] at this
    omega
  | a :: b :: l => by
    simp only [List.cons_append, paramsLen_cons_cons]
    have := paramsLen_concat_le x (b :: l)
    simp only [List.cons_append] at this
    omega

end Girc.Proofs.SplitEvent
