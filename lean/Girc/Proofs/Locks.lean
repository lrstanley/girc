import Girc.Model.Locks
/-
  C12 proofs: on the abstract machine, the lockset discipline implies race freedom and the rank
  discipline implies deadlock freedom, for every number of threads, every program and every schedule.
-/
namespace Girc.Proofs.Locks
open Girc.Model.Locks

/-- The effect of one operation on the held multiset of the executing thread. -/
def heldAfter (h : Held) : Op → Held
  | .acq l e => (l, e) :: h
  | .rel l e => h.erase (l, e)
  | .access _ _ => h

/-- What both static scans have in common. -/
structure Scan (P : Held → List Op → Prop) : Prop where
  step : ∀ h op rest, P h (op :: rest) → P (heldAfter h op) rest
  rel : ∀ h l e rest, P h (.rel l e :: rest) → (l, e) ∈ h

/-- The held multisets after thread `t` has replaced its own by `h`. -/
def updH (H : Tid → Held) (t : Tid) (h : Held) : Tid → Held := fun u => if u = t then h else H u

theorem updH_same (H : Tid → Held) (t : Tid) (h : Held) : updH H t h t = h := if_pos rfl
theorem updH_ne (H : Tid → Held) {t u : Tid} (h : Held) (hu : u ≠ t) : updH H t h u = H u := if_neg hu

/-- The state of lock `l` agrees with the held multisets. -/
structure AgreeAt (st : LockSt) (l : LockId) (H : Tid → Held) : Prop where
  wr : ∀ t, (H t).count (l, true) = if st.writer = some t then 1 else 0
  rd : ∀ t, st.readers.count t = (H t).count (l, false)
  excl : st.writer ≠ none → st.readers = []

def Agree (locks : LockId → LockSt) (H : Tid → Held) : Prop := ∀ l, AgreeAt (locks l) l H

def Inv (P : Held → List Op → Prop) (c : Cfg) : Prop :=
  ∃ H : Tid → Held,
    (∀ t rem, c.progs[t]? = some rem → P (H t) rem) ∧
    (∀ t, c.progs[t]? = none → H t = []) ∧
    Agree c.locks H

theorem AgreeAt.writer_of_mem {st : LockSt} {l : LockId} {H : Tid → Held} (h : AgreeAt st l H) {t : Tid}
    (hm : (l, true) ∈ H t) : st.writer = some t := by
  have := h.wr t
  by_cases hw : st.writer = some t
  · exact hw
  · rw [if_neg hw] at this; exact absurd hm (List.count_eq_zero.mp this)

theorem AgreeAt.mem_of_writer {st : LockSt} {l : LockId} {H : Tid → Held} (h : AgreeAt st l H) {t : Tid}
    (hw : st.writer = some t) : (l, true) ∈ H t :=
  List.count_pos_iff.mp (by rw [h.wr t, if_pos hw]; exact Nat.one_pos)

theorem AgreeAt.reader_iff {st : LockSt} {l : LockId} {H : Tid → Held} (h : AgreeAt st l H) {t : Tid} :
    t ∈ st.readers ↔ (l, false) ∈ H t := by
  rw [← List.count_pos_iff, ← List.count_pos_iff, h.rd t]

theorem AgreeAt.frame {st : LockSt} {l : LockId} {H H' : Tid → Held} (h : AgreeAt st l H)
    (hc : ∀ u m, (H' u).count (l, m) = (H u).count (l, m)) : AgreeAt st l H' :=
  ⟨fun t => by rw [hc]; exact h.wr t, fun t => by rw [hc]; exact h.rd t, h.excl⟩

/-- Thread `t` changes lock `l` and its own multiset: what has to be checked. -/
theorem AgreeAt.step {st st' : LockSt} {l : LockId} {H : Tid → Held} {t : Tid} {h' : Held} (h : AgreeAt st l H)
    (hw : h'.count (l, true) = if st'.writer = some t then 1 else 0)
    (hwo : ∀ u, u ≠ t → (st'.writer = some u ↔ st.writer = some u))
    (hr : st'.readers.count t = h'.count (l, false))
    (hro : ∀ u, u ≠ t → st'.readers.count u = st.readers.count u)
    (hx : st'.writer ≠ none → st'.readers = []) : AgreeAt st' l (updH H t h') := by
  refine ⟨fun u => ?_, fun u => ?_, hx⟩
  · by_cases hu : u = t
    · rw [hu, updH_same]; exact hw
    · rw [updH_ne H h' hu, h.wr u]
      by_cases hw' : st.writer = some u
      · rw [if_pos hw', if_pos ((hwo u hu).mpr hw')]
      · rw [if_neg hw', if_neg fun h => hw' ((hwo u hu).mp h)]
  · by_cases hu : u = t
    · rw [hu, updH_same]; exact hr
    · rw [updH_ne H h' hu, hro u hu]; exact h.rd u

theorem pair_ne (l : LockId) {a b : Bool} (h : a ≠ b) : (l, a) ≠ (l, b) := fun hp => h (Prod.mk.inj hp).2

theorem setLock_same (f : LockId → LockSt) (l : LockId) (v : LockSt) : setLock f l v l = v := if_pos rfl
theorem setLock_ne (f : LockId → LockSt) {l k : LockId} (v : LockSt) (h : k ≠ l) : setLock f l v k = f k := if_neg h

theorem count_heldAfter_ne (h : Held) {l l' : LockId} (hl : l' ≠ l) (e m : Bool) :
    (heldAfter h (.acq l e)).count (l', m) = h.count (l', m) ∧
    (heldAfter h (.rel l e)).count (l', m) = h.count (l', m) :=
  have hne : (l', m) ≠ (l, e) := fun hp => hl (Prod.mk.inj hp).1
  ⟨List.count_cons_of_ne hne.symm, List.count_erase_of_ne hne⟩

theorem agree_off {locks : LockId → LockSt} {H : Tid → Held} (hag : Agree locks H) (t : Tid) (l : LockId) (v : LockSt)
    {h' : Held} (hc : ∀ l' m, l' ≠ l → h'.count (l', m) = (H t).count (l', m))
    (hon : AgreeAt v l (updH H t h')) : Agree (setLock locks l v) (updH H t h') := by
  intro l'
  by_cases hl : l' = l
  · rw [hl, setLock_same]; exact hon
  · rw [setLock_ne locks v hl]
    refine (hag l').frame fun u m => ?_
    by_cases hu : u = t
    · rw [hu, updH_same]; exact hc l' m hl
    · rw [updH_ne H h' hu]

theorem agree_step {locks locks' : LockId → LockSt} {H : Tid → Held} {t : Tid} {op : Op}
    (hag : Agree locks H) (hop : opStep locks t op = some locks') :
    Agree locks' (updH H t (heldAfter (H t) op)) := by
  cases op with
  | access x w =>
    cases hop
    have : updH H t (H t) = H := funext fun u => by
      by_cases hu : u = t
      · rw [hu, updH_same]
      · rw [updH_ne H _ hu]
    show Agree locks (updH H t (H t))
    rw [this]; exact hag
  | acq l e =>
    have hl := hag l
    cases e with
    | true =>
      rw [opStep] at hop
      by_cases hc : (locks l).writer = none ∧ (locks l).readers = []
      · rw [if_pos hc] at hop; cases hop
        show Agree _ (updH H t ((l, true) :: H t))
        refine agree_off hag t l _ (fun l' m h => (count_heldAfter_ne _ h true m).1) (hl.step ?_ ?_ ?_ ?_ fun _ => rfl)
          <;> dsimp only
        · rw [List.count_cons_self, hl.wr t, hc.1, if_pos rfl]; rfl
        · intro u hu
          rw [hc.1]
          exact ⟨fun h => absurd (Option.some.inj h) (Ne.symm hu), fun h => nomatch h⟩
        · rw [List.count_cons_of_ne (pair_ne l (by decide)), ← hl.rd t, hc.2]
        · intro u _; rw [hc.2]
      · rw [if_neg hc] at hop; cases hop
    | false =>
      rw [opStep] at hop
      by_cases hc : (locks l).writer = none
      · rw [if_pos hc] at hop; cases hop
        show Agree _ (updH H t ((l, false) :: H t))
        refine agree_off hag t l _ (fun l' m h => (count_heldAfter_ne _ h false m).1)
          (hl.step ?_ (fun u _ => Iff.rfl) ?_ ?_ fun h => absurd hc h) <;> dsimp only
        · rw [List.count_cons_of_ne (pair_ne l (by decide))]; exact hl.wr t
        · rw [List.count_cons_self, List.count_cons_self, hl.rd t]
        · intro u hu; exact List.count_cons_of_ne (Ne.symm hu)
      · rw [if_neg hc] at hop; cases hop
  | rel l e =>
    have hl := hag l
    cases e with
    | true =>
      rw [opStep] at hop
      by_cases hc : (locks l).writer = some t
      · rw [if_pos hc] at hop; cases hop
        show Agree _ (updH H t ((H t).erase (l, true)))
        refine agree_off hag t l _ (fun l' m h => (count_heldAfter_ne _ h true m).2)
          (hl.step ?_ ?_ ?_ (fun u _ => rfl) fun h => absurd rfl h) <;> dsimp only
        · rw [List.count_erase_self, hl.wr t, if_pos hc]; rfl
        · intro u hu
          rw [hc]
          exact ⟨fun h => (nomatch h), fun h => absurd (Option.some.inj h) (Ne.symm hu)⟩
        · rw [List.count_erase_of_ne (pair_ne l (by decide))]; exact hl.rd t
      · rw [if_neg hc] at hop; cases hop
    | false =>
      rw [opStep] at hop
      by_cases hc : t ∈ (locks l).readers
      · rw [if_pos hc] at hop; cases hop
        show Agree _ (updH H t ((H t).erase (l, false)))
        refine agree_off hag t l _ (fun l' m h => (count_heldAfter_ne _ h false m).2)
          (hl.step ?_ (fun u _ => Iff.rfl) ?_ ?_ ?_) <;> dsimp only
        · rw [List.count_erase_of_ne (pair_ne l (by decide))]; exact hl.wr t
        · rw [List.count_erase_self, List.count_erase_self, hl.rd t]
        · intro u hu; exact List.count_erase_of_ne hu
        · intro hw
          rw [hl.excl hw] at hc; cases hc
      · rw [if_neg hc] at hop; cases hop

theorem inv_init (P : Held → List Op → Prop) (progs : List (List Op))
    (hd : ∀ p ∈ progs, P [] p) : Inv P (initCfg progs) := by
  refine ⟨fun _ => [], ?_, ?_, ?_⟩
  · intro t rem h
    exact hd rem (List.mem_of_getElem? h)
  · intro t _; rfl
  · exact fun l => ⟨fun _ => rfl, fun _ => rfl, fun _ => rfl⟩

theorem inv_step {P : Held → List Op → Prop} (hP : Scan P) {c c' : Cfg} {t : Tid}
    (hi : Inv P c) (hs : step c t = some c') : Inv P c' := by
  obtain ⟨H, hprog, hnone, hag⟩ := hi
  unfold step at hs
  split at hs
  · rename_i op rest hpt
    split at hs
    · rename_i locks' hop
      injection hs with hs; subst hs
      have hPt := hprog t _ hpt
      have hlt : t < c.progs.length := by
        rcases Nat.lt_or_ge t c.progs.length with h | h
        · exact h
        · rw [List.getElem?_eq_none h] at hpt; cases hpt
      refine ⟨updH H t (heldAfter (H t) op), ?_, ?_, ?_⟩
      · intro u rem hu
        by_cases hut : u = t
        · subst hut
          rw [List.getElem?_set_self hlt] at hu
          cases hu
          rw [updH_same]; exact hP.step _ _ _ hPt
        · rw [List.getElem?_set_ne (Ne.symm hut)] at hu
          rw [updH_ne H _ hut]; exact hprog u rem hu
      · intro u hu
        by_cases hut : u = t
        · subst hut
          rw [List.getElem?_set_self hlt] at hu; cases hu
        · rw [List.getElem?_set_ne (Ne.symm hut)] at hu
          rw [updH_ne H _ hut]; exact hnone u hu
      · exact agree_step hag hop
    · cases hs
  · cases hs

theorem inv_reach {P : Held → List Op → Prop} (hP : Scan P) {progs : List (List Op)}
    (hd : ∀ p ∈ progs, P [] p) {c : Cfg} (h : Reach progs c) : Inv P c := by
  induction h with
  | init => exact inv_init P progs hd
  | step t _ hs ih => exact inv_step hP ih hs

theorem scan_covered (guard : Res → LockId) : Scan (fun h p => covered guard h p = true) := by
  refine ⟨fun h op rest hc => ?_, fun h l e rest hc => List.contains_iff_mem.mp ((Bool.and_eq_true _ _).mp hc).1⟩
  cases op with
  | acq l e => exact hc
  | rel l e => exact ((Bool.and_eq_true _ _).mp hc).2
  | access x w => exact ((Bool.and_eq_true _ _).mp hc).2

theorem next_eq {c : Cfg} {t : Tid} {op : Op} (h : c.next t = some op) :
    ∃ rest, c.progs[t]? = some (op :: rest) := by
  unfold Cfg.next at h
  cases hp : c.progs[t]? with
  | none => rw [hp] at h; cases h
  | some p =>
    rw [hp] at h
    cases p with
    | nil => cases h
    | cons a rest =>
      simp at h
      subst h
      exact ⟨rest, rfl⟩

/-- If every thread's program is covered (every access under its guard, exclusively for writes), no
    reachable configuration is a data race. -/
theorem lockset_sound (guard : Res → LockId) (progs : List (List Op))
    (hd : ∀ p ∈ progs, covered guard [] p = true) (c : Cfg) (h : Reach progs c) : ¬ Race c := by
  obtain ⟨H, hprog, _, hag⟩ := inv_reach (scan_covered guard) hd h
  -- the asymmetric core: `t₁` writes
  have core : ∀ t₁ t₂ x w₂, t₁ ≠ t₂ → c.next t₁ = some (.access x true) →
      c.next t₂ = some (.access x w₂) → False := by
    intro t₁ t₂ x w₂ hne h₁ h₂
    obtain ⟨r₁, hp₁⟩ := next_eq h₁
    obtain ⟨r₂, hp₂⟩ := next_eq h₂
    have c₁ := hprog _ _ hp₁
    have c₂ := hprog _ _ hp₂
    simp only [covered, if_true, Bool.and_eq_true, List.contains_iff_mem] at c₁ c₂
    have hl := hag (guard x)
    -- `t₁` is the writer of the guard, so `t₂` neither is nor reads
    have hw₁ := hl.writer_of_mem c₁.1
    have hwr : (guard x, true) ∉ H t₂ := fun hm =>
      hne (Option.some.inj ((hl.writer_of_mem hm).symm.trans hw₁)).symm
    have hrd : (guard x, false) ∉ H t₂ := fun hm => by
      have := hl.reader_iff.mpr hm
      rw [hl.excl (by rw [hw₁]; exact fun h => nomatch h)] at this
      cases this
    cases w₂ with
    | true => exact hwr (by simpa using c₂.1)
    | false =>
      rcases (by simpa using c₂.1 : (guard x, true) ∈ H t₂ ∨ (guard x, false) ∈ H t₂) with h | h
      · exact hwr h
      · exact hrd h
  rintro ⟨t₁, t₂, x, w₁, w₂, hne, h₁, h₂, hw⟩
  rcases hw with hw | hw
  · subst hw; exact core t₁ t₂ x w₂ hne h₁ h₂
  · subst hw; exact core t₂ t₁ x w₁ (fun h => hne h.symm) h₂ h₁

theorem scan_ordered (rank : LockId → Nat) : Scan (fun h p => ordered rank h p = true) := by
  refine ⟨fun h op rest hc => ?_, fun h l e rest hc => List.contains_iff_mem.mp ((Bool.and_eq_true _ _).mp hc).1⟩
  cases op with
  | acq l e => exact ((Bool.and_eq_true _ _).mp hc).2
  | rel l e => exact ((Bool.and_eq_true _ _).mp hc).2
  | access x w => exact hc

theorem exists_bound {α : Type} (f : α → Nat) : ∀ l : List α, ∃ B, ∀ x ∈ l, f x < B
  | [] => ⟨0, fun _ h => nomatch h⟩
  | a :: l =>
    have ⟨B, hB⟩ := exists_bound f l
    ⟨max B (f a + 1), fun x hx => by
      rcases List.mem_cons.mp hx with rfl | hx
      · omega
      · have := hB x hx; omega⟩

theorem rel_enabled {locks : LockId → LockSt} {H : Tid → Held} (hag : Agree locks H) {t : Tid} {l : LockId} {e : Bool}
    (hm : (l, e) ∈ H t) : opStep locks t (.rel l e) ≠ none := by
  cases e with
  | true => rw [opStep, if_pos ((hag l).writer_of_mem hm)]; exact fun h => nomatch h
  | false => rw [opStep, if_pos ((hag l).reader_iff.mpr hm)]; exact fun h => nomatch h

theorem holder_of_blocked {locks : LockId → LockSt} {H : Tid → Held} (hag : Agree locks H) {t : Tid} {l : LockId}
    {e : Bool} (hop : opStep locks t (.acq l e) = none) : ∃ u m, (l, m) ∈ H u := by
  have hl := hag l
  cases hw : (locks l).writer with
  | some u => exact ⟨u, true, hl.mem_of_writer hw⟩
  | none =>
    cases e with
    | false => rw [opStep, if_pos hw] at hop; cases hop
    | true =>
      cases hr : (locks l).readers with
      | nil => rw [opStep, if_pos ⟨hw, hr⟩] at hop; cases hop
      | cons u rs => exact ⟨u, false, hl.reader_iff.mp (by rw [hr]; exact List.mem_cons_self ..)⟩

/-- If every thread's program acquires locks in increasing rank order, releases what it acquired and
    ends holding nothing, no reachable configuration is deadlocked. -/
theorem order_sound (rank : LockId → Nat) (progs : List (List Op))
    (ho : ∀ p ∈ progs, ordered rank [] p = true) (c : Cfg) (h : Reach progs c) : ¬ Deadlocked c := by
  obtain ⟨H, hprog, hnone, hag⟩ := inv_reach (scan_ordered rank) ho h
  rintro ⟨⟨t₀, ops₀, hp₀, hne₀⟩, hstuck⟩
  -- every unfinished thread is blocked at an acquisition
  have blocked : ∀ t ops, c.progs[t]? = some ops → ops ≠ [] →
      ∃ l e rest, ops = .acq l e :: rest ∧ opStep c.locks t (.acq l e) = none := by
    intro t ops hp hne
    cases ops with
    | nil => exact absurd rfl hne
    | cons op rest =>
      have hs := hstuck t
      unfold step at hs
      rw [hp] at hs
      dsimp only at hs
      have hop : opStep c.locks t op = none := by
        cases ho : opStep c.locks t op with
        | none => rfl
        | some l' => rw [ho] at hs; cases hs
      cases op with
      | acq l e => exact ⟨l, e, rest, rfl, hop⟩
      | rel l e => exact absurd hop (rel_enabled hag ((scan_ordered rank).rel _ _ _ _ (hprog t _ hp)))
      | access x w => cases hop
  -- whoever holds something is unfinished
  have holder : ∀ u p, p ∈ H u → ∃ ops, c.progs[u]? = some ops ∧ ops ≠ [] := by
    intro u p hpu
    cases hq : c.progs[u]? with
    | none => rw [hnone u hq] at hpu; cases hpu
    | some ops =>
      refine ⟨ops, rfl, ?_⟩
      rintro rfl
      have := hprog u _ hq
      simp only [ordered, List.isEmpty_iff] at this
      rw [this] at hpu; cases hpu
  -- a blocked thread waits for a thread blocked at a lock of strictly greater rank
  have nxt : ∀ (t : Tid) l e rest, c.progs[t]? = some (Op.acq l e :: rest) →
      ∃ (t' : Tid) (l' : LockId) (e' : Bool) (rest' : List Op), c.progs[t']? = some (Op.acq l' e' :: rest') ∧ rank l < rank l' := by
    intro t l e rest hp
    obtain ⟨l₁, e₁, rest₁, heq, hop⟩ := blocked t _ hp (List.cons_ne_nil _ _)
    cases heq
    obtain ⟨u, m, hum⟩ := holder_of_blocked hag hop
    obtain ⟨ops, hpu, hneu⟩ := holder u _ hum
    obtain ⟨l', e', rest', rfl, _⟩ := blocked u ops hpu hneu
    refine ⟨u, l', e', rest', hpu, ?_⟩
    have := hprog u _ hpu
    simp only [ordered, Bool.and_eq_true, List.all_eq_true, decide_eq_true_eq] at this
    exact this.1 (l, m) hum
  -- so the awaited ranks grow without bound, among finitely many threads
  have chain : ∀ n : Nat, ∀ (t : Tid) l e rest, c.progs[t]? = some (Op.acq l e :: rest) →
      ∃ (t' : Tid) (l' : LockId) (e' : Bool) (rest' : List Op), c.progs[t']? = some (Op.acq l' e' :: rest') ∧ rank l + n ≤ rank l' := by
    intro n
    induction n with
    | zero => intro t l e rest hp; exact ⟨t, l, e, rest, hp, Nat.le_refl _⟩
    | succ n ih =>
      intro t l e rest hp
      obtain ⟨t₁, l₁, e₁, rest₁, hp₁, hlt⟩ := nxt t l e rest hp
      obtain ⟨t₂, l₂, e₂, rest₂, hp₂, hle⟩ := ih t₁ l₁ e₁ rest₁ hp₁
      exact ⟨t₂, l₂, e₂, rest₂, hp₂, by omega⟩
  obtain ⟨B, hB⟩ := exists_bound (fun p : List Op => match p with | .acq l _ :: _ => rank l | _ => 0) c.progs
  obtain ⟨l, e, rest, rfl, _⟩ := blocked t₀ ops₀ hp₀ hne₀
  obtain ⟨t', l', e', rest', hp', hle⟩ := chain B t₀ l e rest hp₀
  have := hB _ (List.mem_of_getElem? hp')
  dsimp only at this
  omega

/-- Non-vacuity: a writer and a reader of the same resource under its RW lock are covered and ordered. -/
example : covered (fun _ => 0) [] [.acq 0 true, .access 7 true, .rel 0 true] = true ∧
    covered (fun _ => 0) [] [.acq 0 false, .access 7 false, .rel 0 false] = true ∧
    ordered (fun l => l) [] [.acq 0 false, .acq 1 true, .rel 1 true, .rel 0 false] = true := by decide

/-- … and without the discipline the machine does race: two unguarded writers. -/
example : Race (initCfg [[.access 7 true], [.access 7 true]]) :=
  ⟨0, 1, 7, true, true, by decide, rfl, rfl, Or.inl rfl⟩

end Girc.Proofs.Locks
