import Girc.Proofs.InvBase
/-
  `deleteUser` / `deleteChannel` never fault on a consistent state and keep it consistent. Edges go in three
  ways: a user out of every channel (`InvL.eraseUser`), one edge (`InvL.removeEdge`, an instance of
  `InvL.point`), a channel out of every user (inside `deleteChannel_inv`). The loops over a key list share one
  specification (`loop_spec`).
-/
namespace Girc.Proofs.InvDelete
open Girc Girc.Model Girc.Spec Girc.Proofs.InvBase

/-- One step of `deleteChannelLoop` on the user map, as a lookup. -/
theorem get?_deleteChannel_step (us : AMap User) (n x : Bytes) (u' : User) :
    AMap.get? (if u'.chans.length = 0 then AMap.erase (AMap.set us n u') n else AMap.set us n u') x =
      if x = n then (if u'.chans = [] then none else some u') else AMap.get? us x := by
  by_cases hl : u'.chans.length = 0
  · rw [if_pos hl, if_pos (List.length_eq_zero_iff.mp hl), get?_erase, get?_set]
    split <;> rfl
  · rw [if_neg hl, if_neg (fun e => hl (List.length_eq_zero_iff.mpr e)), get?_set]

theorem keys_deleteChannel_step_nodup {us : AMap User} (hnd : (AMap.keys us).Nodup) (n : Bytes) (u' : User) :
    (AMap.keys (if u'.chans.length = 0 then AMap.erase (AMap.set us n u') n else AMap.set us n u')).Nodup := by
  split
  · exact keys_erase_nodup (keys_set_nodup hnd n u') n
  · exact keys_set_nodup hnd n u'

theorem _root_.Girc.Proofs.InvBase.InvL.eraseUser {cs cs' : AMap Channel} {us : AMap User} (h : InvL cs us) (N : Bytes)
    (hnd : (AMap.keys cs').Nodup)
    (hget : ∀ k, AMap.get? cs' k = (AMap.get? cs k).map (fun ch => { ch with users := ch.users.erase N })) :
    InvL cs' (AMap.erase us N) := by
  obtain ⟨_, h2, hC, hU, hE⟩ := invL_iff.mp h
  refine invL_iff.mpr ⟨hnd, keys_erase_nodup h2 N, ?_, ?_, ?_⟩
  · intro k c' hk
    rw [hget] at hk
    obtain ⟨c, hck, rfl⟩ := Option.map_eq_some_iff.mp hk
    exact (hC k c hck).sublist List.erase_sublist
  · intro n u hn
    exact hU n u ((get?_erase_eq_some_iff _ _ _ _).mp hn).2
  · intro k n
    rw [listed_erase, ← hE, listed_of_map hget]
    constructor
    · rintro ⟨c, hck, hn⟩
      have hn' := (mem_erase_of_nodup (h.users_nodup hck) N n).mp hn
      exact ⟨hn'.1, c, hck, hn'.2⟩
    · rintro ⟨hne, c, hck, hn⟩
      exact ⟨c, hck, (mem_erase_of_nodup (h.users_nodup hck) N n).mpr ⟨hne, hn⟩⟩

/-- Removing the single membership edge between user `N` and channel `K` (both exist; the edge need
    not), dropping the user when its channel list becomes empty. -/
theorem _root_.Girc.Proofs.InvBase.InvL.removeEdge {cs : AMap Channel} {us : AMap User} (h : InvL cs us) {N K : Bytes}
    {user user' : User} {channel channel' : Channel}
    (hu : AMap.get? us N = some user) (hc : AMap.get? cs K = some channel)
    (hnick : user'.nick = user.nick) (hchans : user'.chans = user.chans.erase K)
    (hname : channel'.name = channel.name) (husers : channel'.users = channel.users.erase N) :
    InvL (AMap.set cs K channel')
      (if user'.chans.length = 0 then AMap.erase (AMap.set us N user') N else AMap.set us N user') := by
  obtain ⟨_, h2, hC, hU, _⟩ := invL_iff.mp h
  refine h.point (b := False) hc (fun j => (listed_of_get hu j).symm) (keys_deleteChannel_step_nodup h2 N user')
    (fun x => get?_deleteChannel_step us N x user') ?_ ?_ (fun x => ?_) (fun j => ?_)
  · rw [hname, husers]; exact (hC _ _ hc).sublist List.erase_sublist
  · rw [hnick, hchans]; exact (hU _ _ hu).1.sublist List.erase_sublist
  · rw [husers, mem_erase_of_nodup (h.users_nodup hc), and_false, false_or]
  · rw [hchans, mem_erase_of_nodup (h.chans_nodup hu), and_false, false_or]

/-- A loop that visits each listed key once and replaces the entry `v` found there by `g v` (dropping
    it when `g v = none`), as a lookup. It is stated for any `loop` with the two defining equations,
    so that it serves `deleteUserLoop`, `deleteChannelLoop` and `renameLoop`; `I` is whatever else
    the steps preserve. -/
theorem loop_spec {β : Type} {loop : List Bytes → AMap β → M (AMap β)} {step : AMap β → Bytes → β → AMap β}
    {g : β → Option β} (hnil : ∀ m, loop [] m = .ok m)
    (hcons : ∀ k ks m v, AMap.get? m k = some v → loop (k :: ks) m = loop ks (step m k v))
    (hstep : ∀ m k v x, AMap.get? (step m k v) x = if x = k then g v else AMap.get? m x)
    {I : AMap β → Prop} (hI : ∀ m k v, AMap.get? m k = some v → I m → I (step m k v))
    (l : List Bytes) (m : AMap β) (hl : l.Nodup) (hex : ∀ k ∈ l, ∃ v, AMap.get? m k = some v) (hm : I m) :
    ∃ m', loop l m = .ok m' ∧ I m' ∧
      ∀ x, AMap.get? m' x = if x ∈ l then (AMap.get? m x).bind g else AMap.get? m x := by
  induction l generalizing m with
  | nil => exact ⟨m, hnil m, hm, fun x => by rw [if_neg List.not_mem_nil]⟩
  | cons k ks ih =>
    obtain ⟨v, hv⟩ := hex k List.mem_cons_self
    obtain ⟨hk, hks⟩ := List.nodup_cons.mp hl
    have hex' : ∀ k' ∈ ks, ∃ v', AMap.get? (step m k v) k' = some v' := by
      intro k' hk'
      rw [hstep, if_neg (fun (e : k' = k) => hk (e ▸ hk'))]
      exact hex k' (List.mem_cons_of_mem _ hk')
    obtain ⟨m', hrun, hm', hget⟩ := ih (step m k v) hks hex' (hI m k v hv hm)
    refine ⟨m', by rw [hcons k ks m v hv]; exact hrun, hm', fun x => ?_⟩
    rw [hget, hstep]
    by_cases e : x = k
    · subst e; rw [if_neg hk, if_pos rfl, if_pos List.mem_cons_self, hv]; rfl
    · rw [if_neg e]
      by_cases hx : x ∈ ks
      · rw [if_pos hx, if_pos (List.mem_cons_of_mem _ hx)]
      · rw [if_neg hx, if_neg (fun h => (List.mem_cons.mp h).elim e hx)]

theorem deleteUserLoop_nil (nick : Bytes) (cs : AMap Channel) : deleteUserLoop nick [] cs = .ok cs := rfl

theorem deleteUserLoop_cons (nick c : Bytes) (rest : List Bytes) (cs : AMap Channel) (ch : Channel)
    (h : AMap.get? cs c = some ch) :
    deleteUserLoop nick (c :: rest) cs = deleteUserLoop nick rest (AMap.set cs c (ch.deleteUser nick)) := by
  rw [deleteUserLoop, h]; rfl

theorem deleteUserLoop_spec (nick : Bytes) (l : List Bytes) (cs : AMap Channel)
    (hnd : (AMap.keys cs).Nodup) (hl : l.Nodup) (hex : ∀ c ∈ l, ∃ ch, AMap.get? cs c = some ch) :
    ∃ cs', deleteUserLoop nick l cs = .ok cs' ∧ (AMap.keys cs').Nodup ∧
      ∀ k, AMap.get? cs' k = (AMap.get? cs k).map (fun ch => if k ∈ l then ch.deleteUser nick else ch) := by
  obtain ⟨cs', hrun, hnd', hget⟩ := loop_spec (g := fun ch => some (ch.deleteUser nick)) (I := fun m => (AMap.keys m).Nodup)
    (deleteUserLoop_nil nick) (deleteUserLoop_cons nick) (fun m k _ x => get?_set m k x _)
    (fun _ k _ _ hm => keys_set_nodup hm k _) l cs hl hex hnd
  refine ⟨cs', hrun, hnd', fun k => ?_⟩
  rw [hget]
  split <;> cases AMap.get? cs k <;> rfl

theorem deleteChannelLoop_nil (name : Bytes) (us : AMap User) : deleteChannelLoop name [] us = .ok us := rfl

theorem deleteChannelLoop_cons (name n : Bytes) (rest : List Bytes) (us : AMap User) (u : User)
    (h : AMap.get? us n = some u) :
    deleteChannelLoop name (n :: rest) us =
      deleteChannelLoop name rest
        (if (u.deleteChannel name).chans.length = 0 then AMap.erase (AMap.set us n (u.deleteChannel name)) n
         else AMap.set us n (u.deleteChannel name)) := by
  rw [deleteChannelLoop, h]; rfl

theorem deleteChannelLoop_spec (name : Bytes) (l : List Bytes) (us : AMap User)
    (hnd : (AMap.keys us).Nodup) (hl : l.Nodup) (hex : ∀ n ∈ l, ∃ u, AMap.get? us n = some u) :
    ∃ us', deleteChannelLoop name l us = .ok us' ∧ (AMap.keys us').Nodup ∧
      ∀ x, AMap.get? us' x =
        if x ∈ l then
          (AMap.get? us x).bind (fun u =>
            if (u.deleteChannel name).chans = [] then none else some (u.deleteChannel name))
        else AMap.get? us x :=
  loop_spec (I := fun m => (AMap.keys m).Nodup) (deleteChannelLoop_nil name) (deleteChannelLoop_cons name)
    (fun m k _ x => get?_deleteChannel_step m k x _) (fun _ k _ _ hm => keys_deleteChannel_step_nodup hm k _)
    l us hl hex hnd

theorem deleteUser_none {st : St} {chan nick : Bytes} (h : AMap.get? st.users (fold nick) = none) :
    st.deleteUser chan nick = .ok st := by
  unfold St.deleteUser
  rw [lookupUser_eq, h]

theorem deleteUser_nil_eq {st : St} (h : Inv st) (nick : Bytes) {user : User}
    (hu : AMap.get? st.users (fold nick) = some user) :
    ∃ cs', st.deleteUser [] nick = .ok { st with channels := cs', users := AMap.erase st.users (fold nick) } ∧
      (AMap.keys cs').Nodup ∧
      ∀ k, AMap.get? cs' k =
        (AMap.get? st.channels k).map (fun ch => { ch with users := ch.users.erase (fold nick) }) := by
  have hL := h.toInvL
  obtain ⟨cs', hrun, hnd', hget⟩ := deleteUserLoop_spec nick user.chans st.channels hL.chanKeys
    (hL.chans_nodup hu) (fun c hc => by
      obtain ⟨ch, hch, _⟩ := hL.userToChan _ _ hu c hc
      exact ⟨ch, hch⟩)
  refine ⟨cs', ?_, hnd', fun k => ?_⟩
  · unfold St.deleteUser
    rw [show st.lookupUser nick = some user from hu]
    dsimp only
    rw [if_pos rfl, hrun]; rfl
  · rw [hget]
    cases hk : AMap.get? st.channels k with
    | none => rfl
    | some ch =>
      rw [Option.map_some, Option.map_some]
      split
      · rfl
      · next hm =>
        -- a channel the user does not list does not list the user
        have hnot : fold nick ∉ ch.users := fun hin => hm ((hL.mem_users_iff_mem_chans hk hu).mp hin)
        rw [List.erase_of_not_mem hnot]

theorem deleteUser_edge_eq {st : St} {chan nick : Bytes} {user : User} {channel : Channel} (hne : chan ≠ [])
    (hu : AMap.get? st.users (fold nick) = some user) (hc : AMap.get? st.channels (fold chan) = some channel) :
    st.deleteUser chan nick = .ok { st with
      users := (if (user.deleteChannel chan).chans.length = 0
        then AMap.erase (AMap.set st.users (fold nick) (user.deleteChannel chan)) (fold nick)
        else AMap.set st.users (fold nick) (user.deleteChannel chan)),
      channels := AMap.set st.channels (fold chan) (channel.deleteUser nick) } := by
  unfold St.deleteUser
  rw [show st.lookupUser nick = some user from hu]
  dsimp only
  rw [if_neg hne, show st.lookupChannel chan = some channel from hc]

theorem deleteChannel_eq {st : St} (h : Inv st) (chan : Bytes) {ch : Channel}
    (hc : AMap.get? st.channels (fold chan) = some ch) :
    ∃ us', st.deleteChannel chan =
        .ok { st with users := us', channels := AMap.erase st.channels (fold chan) } ∧
      (AMap.keys us').Nodup ∧
      ∀ x, AMap.get? us' x =
        if x ∈ ch.users then
          (AMap.get? st.users x).bind (fun u =>
            if (u.deleteChannel (fold chan)).chans = [] then none else some (u.deleteChannel (fold chan)))
        else AMap.get? st.users x := by
  have hL := h.toInvL
  obtain ⟨us', hrun, hnd', hget⟩ := deleteChannelLoop_spec (fold chan) ch.users st.users hL.userKeys
    (hL.users_nodup hc) (fun n hn => by
      obtain ⟨u, hu, _⟩ := hL.chanToUser _ _ hc n hn
      exact ⟨u, hu⟩)
  refine ⟨us', ?_, hnd', hget⟩
  unfold St.deleteChannel
  dsimp only
  rw [hc]
  dsimp only
  rw [hrun]; rfl

/-- `deleteUser` never dereferences nil on a consistent state and keeps it consistent. -/
theorem deleteUser_inv (st : St) (chan nick : Bytes) (h : Inv st) :
    ∃ st', st.deleteUser chan nick = .ok st' ∧ Inv st' := by
  have hL := h.toInvL
  cases hu : AMap.get? st.users (fold nick) with
  | none => exact ⟨st, deleteUser_none hu, h⟩
  | some user =>
    by_cases hchan : chan = []
    · obtain ⟨cs', hrun, hnd', hget⟩ := deleteUser_nil_eq h nick hu
      exact ⟨_, hchan ▸ hrun, inv_with_maps st (hL.eraseUser (fold nick) hnd' hget)⟩
    · cases hc : AMap.get? st.channels (fold chan) with
      | none =>
        refine ⟨st, ?_, h⟩
        unfold St.deleteUser
        rw [show st.lookupUser nick = some user from hu]
        dsimp only
        rw [if_neg hchan, show st.lookupChannel chan = none from hc]
      | some channel =>
        exact ⟨_, deleteUser_edge_eq hchan hu hc, inv_with_maps st (hL.removeEdge hu hc rfl rfl rfl rfl)⟩

theorem deleteChannel_inv (st : St) (chan : Bytes) (h : Inv st) :
    ∃ st', st.deleteChannel chan = .ok st' ∧ Inv st' := by
  cases hc : AMap.get? st.channels (fold chan) with
  | none => exact ⟨st, by unfold St.deleteChannel; dsimp only; rw [hc], h⟩
  | some ch =>
    have hL := h.toInvL
    obtain ⟨us', hrun, hnd', hget⟩ := deleteChannel_eq h chan hc
    obtain ⟨h1, _, hC, hU, hE⟩ := invL_iff.mp hL
    have hdc : ∀ u : User, (u.deleteChannel (fold chan)).chans = u.chans.erase (fold chan) := by
      intro u; show u.chans.erase (fold (fold chan)) = _; rw [fold_idem]
    -- an entry of `us'` is an old entry without `fold chan` in its list, and every such entry that
    -- still lists something is there
    have hold : ∀ {n u'}, AMap.get? us' n = some u' → ∃ u, AMap.get? st.users n = some u ∧
        u'.nick = u.nick ∧ u'.chans = u.chans.erase (fold chan) ∧ u'.chans ≠ [] := by
      intro n u' hn
      rw [hget] at hn
      split at hn
      · obtain ⟨u, hu, hn⟩ := Option.bind_eq_some_iff.mp hn
        split at hn
        · cases hn
        · next he => cases hn; exact ⟨u, hu, rfl, hdc u, he⟩
      · next hm =>
        have hnot : fold chan ∉ u'.chans := fun hin => hm ((hL.mem_users_iff_mem_chans hc hn).mpr hin)
        exact ⟨u', hn, rfl, (List.erase_of_not_mem hnot).symm, (hU n u' hn).2⟩
    have hnew : ∀ {n u}, AMap.get? st.users n = some u → u.chans.erase (fold chan) ≠ [] →
        ∃ u', AMap.get? us' n = some u' ∧ u'.chans = u.chans.erase (fold chan) := by
      intro n u hu hne
      rw [hget]
      split
      · rw [hu, Option.bind_some, if_neg (by rw [hdc]; exact hne)]
        exact ⟨_, rfl, hdc u⟩
      · next hm =>
        have hnot : fold chan ∉ u.chans := fun hin => hm ((hL.mem_users_iff_mem_chans hc hu).mpr hin)
        exact ⟨u, hu, (List.erase_of_not_mem hnot).symm⟩
    refine ⟨_, hrun, inv_with_maps st (invL_iff.mpr ⟨keys_erase_nodup h1 _, hnd', ?_, ?_, ?_⟩)⟩
    · intro k c hk
      exact hC k c ((get?_erase_eq_some_iff _ _ _ _).mp hk).2
    · intro n u' hn
      obtain ⟨u, hu, e1, e2, hne⟩ := hold hn
      rw [e1, e2]; exact ⟨(hU n u hu).1.sublist List.erase_sublist, e2 ▸ hne⟩
    · intro k n
      rw [listed_erase, hE]
      constructor
      · rintro ⟨hne, u, hu, hk⟩
        have hmem := (mem_erase_of_nodup (hL.chans_nodup hu) _ k).mpr ⟨hne, hk⟩
        obtain ⟨u', hu', e⟩ := hnew hu (List.ne_nil_of_mem hmem)
        exact ⟨u', hu', e ▸ hmem⟩
      · rintro ⟨u', hu', hk⟩
        obtain ⟨u, hu, _, e2, _⟩ := hold hu'
        have hk' := (mem_erase_of_nodup (hL.chans_nodup hu) _ k).mp (e2 ▸ hk)
        exact ⟨hk'.1, u, hu, hk'.2⟩

end Girc.Proofs.InvDelete
