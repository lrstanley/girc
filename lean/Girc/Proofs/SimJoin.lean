import Girc.Proofs.InvJoin
import Girc.Proofs.SimBase
/-
  C04: messages that add members (JOIN, NAMES). Each reference operation commutes with the tracker's writes for
  it (`simW_ensureChan`, `simW_ensureUser`, `simW_addMember`); the handlers are compositions of these.
  `st`/`r` are the states AFTER the account-tag step.
-/
namespace Girc.Proofs.SimJoin
open Girc Girc.Model Girc.Spec Girc.Proofs.InvBase Girc.Proofs.SimAMap

theorem addMember_of_mem {r : Ref} {c u : Bytes} (h : (c, u) ∈ r.members) : r.addMember c u = r := by
  unfold Ref.addMember Ref.isMember
  rw [if_pos (List.contains_iff_mem.mpr h)]

theorem addMember_of_not_mem {r : Ref} {c u : Bytes} (h : (c, u) ∉ r.members) :
    r.addMember c u = { r.setPerms c u {} with members := r.members ++ [(c, u)] } := by
  unfold Ref.addMember Ref.isMember
  rw [if_neg fun hc => h (List.contains_iff_mem.mp hc)]
  rfl

theorem mem_snoc_pair {M : List (Bytes × Bytes)} {k n x y : Bytes} :
    (x, y) ∈ M ++ [(k, n)] ↔ (x, y) ∈ M ∨ (x = k ∧ y = n) := by
  rw [List.mem_append, List.mem_singleton, Prod.mk.injEq]

theorem newCModes_eq (a b : Bytes) :
    newCModes a b = { raw := a, listArgs := (splitN4 a).1, argsM := (splitN4 a).2.1, setArgs := (splitN4 a).2.2.1,
                      noArgs := (splitN4 a).2.2.2, prefixes := b, modes := [] } := by
  rcases h : splitN4 a with ⟨x, y, z, w⟩
  simp only [newCModes, h]

theorem chanModes_eq {st : St} {r : Ref} (h : SimW st r) : st.chanModes = r.chanmodesOpt := by
  unfold St.chanModes Ref.chanmodesOpt
  rw [h.opts]
  rfl

theorem userPrefixes_eq {st : St} {r : Ref} (h : SimW st r) : st.userPrefixes = r.prefixOpt := by
  unfold St.userPrefixes Ref.prefixOpt
  rw [h.opts]
  rfl

theorem addUser_of_mem {c : Channel} {x : Bytes} (h : fold x ∈ c.users) : c.addUser x = c := by
  unfold Channel.addUser Channel.userIn
  rw [if_pos ((list_contains_iff_mem _ _).mpr h)]

theorem addChannel_of_mem {u : User} {x : Bytes} (h : fold x ∈ u.chans) : u.addChannel x = u := by
  unfold User.addChannel User.inChannel
  rw [if_pos ((list_contains_iff_mem _ _).mpr h)]

theorem chanView_addUser (c : Channel) (x : Bytes) : chanView (c.addUser x) = chanView c := by
  unfold Channel.addUser; split <;> rfl

theorem addUser_modes (c : Channel) (x : Bytes) : (c.addUser x).modes = c.modes := by
  unfold Channel.addUser; split <;> rfl

theorem userView_addChannel (u : User) (x : Bytes) : userView (u.addChannel x) = userView u := by
  unfold User.addChannel; split <;> rfl

theorem addChannel_perms_of_not_mem {u : User} {b : Bytes} (h : fold b ∉ u.chans) :
    (u.addChannel b).perms = AMap.set u.perms (fold b) {} := by
  unfold User.addChannel User.inChannel
  rw [if_neg fun hc => h ((list_contains_iff_mem _ _).mp hc)]

theorem simW_ensureChan {st : St} {r : Ref} (h : SimW st r) (name : Bytes) (hne : name ≠ []) :
    SimW (InvJoin.ensureChannel st name) (r.ensureChan name) := by
  cases hl : st.lookupChannel name with
  | some ch =>
    rw [InvJoin.ensureChannel_of_some hl]
    unfold Ref.ensureChan
    rw [if_pos (contains_of_view h.chans hl)]
    exact h
  | none =>
    rw [InvJoin.ensureChannel_of_none hl]
    have hst : ¬ AMap.contains st.channels (fold name) = true := by
      rw [(contains_eq_false_iff _ _).mpr hl]; exact Bool.false_ne_true
    have hr : ¬ AMap.contains r.chans (fold name) = true := by
      rw [contains_eq_of_view h.chans]; exact hst
    unfold Ref.ensureChan St.createChannel
    rw [if_neg hr, if_neg hst]
    have hv : ({ name := name, chanmodes := r.chanmodesOpt, prefixModes := (parsePrefixes r.prefixOpt).1 } : RChan) =
        chanView { name := name, modes := newCModes st.chanModes (parsePrefixes st.userPrefixes).1 } := by
      rw [newCModes_eq, chanModes_eq h, userPrefixes_eq h]; rfl
    dsimp only
    rw [hv]
    refine simW_putChannel h _ _ (fun e' => hne ((fold_eq_nil_iff name).mp e'))
      (fun n => ⟨fun hn => (nomatch hn), fun hm => absurd (h.membersKnown _ _ hm).1 hr⟩) ?_
    rw [newCModes_eq]
    exact ⟨fun _ hx => (nomatch hx), rfl⟩

theorem simW_ensureUser {st : St} {r : Ref} (h : SimW st r) (src : Source) :
    SimW (InvJoin.ensureUser st src) (r.ensureUser src) := by
  cases hl : st.lookupUser src.name with
  | some u =>
    rw [InvJoin.ensureUser_of_some hl]
    unfold Ref.ensureUser
    rw [if_pos (contains_of_view h.users hl)]
    exact h
  | none =>
    rw [InvJoin.ensureUser_of_none hl]
    have hst : ¬ AMap.contains st.users (fold src.name) = true := by
      rw [(contains_eq_false_iff _ _).mpr hl]; exact Bool.false_ne_true
    have hr : ¬ AMap.contains r.users (fold src.name) = true := by
      rw [contains_eq_of_view h.users]; exact hst
    unfold Ref.ensureUser St.createUser
    rw [if_neg hr, if_neg hst]
    have hnomem : ∀ k, (k, fold src.name) ∉ r.members := fun k hm => hr (h.membersKnown _ _ hm).2
    exact simW_putUser h _ _ (fun k => ⟨fun hk => (nomatch hk), fun hm => absurd hm (hnomem k)⟩)
      fun k hm => absurd hm (hnomem k)

theorem simW_addMember {st : St} {r : Ref} (h : SimW st r) {k n a b : Bytes} {ch : Channel} {u : User}
    (hc : AMap.get? st.channels k = some ch) (hu : AMap.get? st.users n = some u)
    (ha : fold a = n) (hb : fold b = k) :
    SimW (setUser (setChannel st k (ch.addUser a)) n (u.addChannel b)) (r.addMember k n) := by
  have hinc : n ∈ ch.users ↔ (k, n) ∈ r.members := h.members k ch hc n
  have hinu : k ∈ u.chans ↔ (k, n) ∈ r.members := h.umembers n u hu k
  by_cases hmem : (k, n) ∈ r.members
  · rw [addMember_of_mem hmem, addUser_of_mem (ha ▸ hinc.mpr hmem), addChannel_of_mem (hb ▸ hinu.mpr hmem)]
    exact (h.congr (stEq_setChannel_self hc)).congr (stEq_setUser_self (st := setChannel st k ch) hu)
  · have hnu : fold b ∉ u.chans := fun hk => hmem (hinu.mp (hb ▸ hk))
    rw [addMember_of_not_mem hmem]
    exact
    { h with
      chans := view_set_left h.chans hc (chanView_addUser ch a)
      chanModesWF := fun x c hx => by
        rcases get?_set_some hx with ⟨_, rfl⟩ | ⟨_, hx⟩
        · rw [addUser_modes]; exact h.chanModesWF k ch hc
        · exact h.chanModesWF x c hx
      users := view_set_left h.users hu (userView_addChannel u b)
      members := fun x c hx y => by
        rw [show (x, y) ∈ r.members ++ [(k, n)] ↔ _ from mem_snoc_pair]
        rcases get?_set_some hx with ⟨rfl, rfl⟩ | ⟨e, hx⟩
        · rw [InvJoin.addUser_mem, ha, h.members x ch hc y]
          exact ⟨fun | .inl e => .inr ⟨rfl, e⟩ | .inr m => .inl m, fun | .inl m => .inr m | .inr e => .inl e.2⟩
        · rw [h.members x c hx y]
          exact ⟨Or.inl, fun | .inl m => m | .inr e' => absurd e'.1 e⟩
      umembers := fun y v hy x => by
        rw [show (x, y) ∈ r.members ++ [(k, n)] ↔ _ from mem_snoc_pair]
        rcases get?_set_some hy with ⟨rfl, rfl⟩ | ⟨e, hy⟩
        · rw [InvJoin.addChannel_mem, hb, h.umembers y u hu x]
          exact ⟨fun | .inl e => .inr ⟨e, rfl⟩ | .inr m => .inl m, fun | .inl m => .inr m | .inr e => .inl e.1⟩
        · rw [h.umembers y v hy x]
          exact ⟨Or.inl, fun | .inl m => m | .inr e' => absurd e'.2 e⟩
      membersKnown := fun x y hm => by
        rcases mem_snoc_pair.mp hm with hm | ⟨rfl, rfl⟩
        · exact h.membersKnown x y hm
        · exact ⟨contains_of_view h.chans hc, contains_of_view h.users hu⟩
      membersNodup := by
        show (r.members ++ [(k, n)]).Nodup
        rw [List.nodup_append]
        exact ⟨h.membersNodup, List.nodup_cons.mpr ⟨List.not_mem_nil, List.nodup_nil⟩,
          fun p hp q hq e => hmem (by rw [List.mem_singleton.mp hq] at e; exact e ▸ hp)⟩
      perms := fun x y v hm hv => by
        show _ = (r.setPerms k n {}).getPerms x y
        rw [getPerms_setPerms]
        rcases mem_snoc_pair.mp hm with hm' | ⟨rfl, rfl⟩
        · rw [if_neg fun (e : (x, y) = (k, n)) => hmem (e ▸ hm')]
          rcases get?_set_some hv with ⟨rfl, rfl⟩ | ⟨_, hv⟩
          · have hx : x ≠ fold b := fun e => hmem (by rw [← hb, ← e]; exact hm')
            rw [addChannel_perms_of_not_mem hnu, get?_set_ne _ _ hx]
            exact h.perms x y u hm' hu
          · exact h.perms x y v hm' hv
        · rw [if_pos rfl]
          rcases get?_set_some hv with ⟨_, rfl⟩ | ⟨e, _⟩
          · rw [addChannel_perms_of_not_mem hnu, hb, get?_set_self]; rfl
          · exact absurd rfl e
      permsKnown := fun p hp => by
        rcases mem_perms_setPerms r k n {} p hp with hp | e
        · exact h.permsKnown p hp
        · rw [e]; exact contains_of_view h.users hu }

/-- The extended-join attributes, as `cmdStep` applies them. -/
def refAttrs (r : Ref) (n : Bytes) (ext : List Bytes) : Ref :=
  match ext with
  | acct :: rest =>
    let r := if acct ≠ sStar then r.updUser n (fun u => { u with account := acct }) else r
    (match rest with | rn :: _ => r.updUser n (fun u => { u with realname := rn }) | [] => r)
  | [] => r

theorem ne_nil_of_isValidChannel {chan : Bytes} (h : isValidChannel chan = true) : chan ≠ [] := by
  intro e
  subst e
  cases h

theorem handleJOIN_eq (cfg : Cfg) (st : St) (t : Option Tags) (src : Source) (chan : Bytes) (ext : List Bytes)
    {ch : Channel} {u : User} (hch : (InvJoin.ensureChannel st chan).lookupChannel chan = some ch)
    (hu : (InvJoin.ensureUser (InvJoin.ensureChannel st chan) src).lookupUser src.name = some u) :
    handleJOIN cfg st ⟨t, some src, cJOIN, chan :: ext⟩ =
      InvJoin.joinC cfg (chan :: ext) src chan ch u (InvJoin.ensureUser (InvJoin.ensureChannel st chan) src) := by
  show InvJoin.joinA cfg (chan :: ext) src chan (InvJoin.ensureChannel st chan) = _
  unfold InvJoin.joinA
  rw [hch]
  show InvJoin.joinB cfg (chan :: ext) src chan ch _ = _
  unfold InvJoin.joinB
  rw [hu]
  rfl

theorem stEq_setUser_setUser (st : St) (n : Bytes) (v w : User) :
    StEq (setUser (setUser st n v) n w) (setUser st n w) :=
  StEq.of_users st (InvBase.get?_set_set _ _ _ _)

theorem simW_joinAttrs {st : St} {r : Ref} (h : SimW st r) {n : Bytes} {u : User}
    (hu : AMap.get? st.users n = some u) (chan : Bytes) (ext : List Bytes) :
    SimW (setUser st n (InvJoin.joinAttrs (chan :: ext) u)) (refAttrs r n ext) := by
  rcases ext with _ | ⟨acct, rest⟩
  · exact h.congr (stEq_setUser_self hu)
  have W1 : SimW (setUser st n (if acct ≠ sStar then { u with account := acct } else u))
      (if acct ≠ sStar then r.updUser n (fun u => { u with account := acct }) else r) := by
    by_cases hacct : acct ≠ sStar
    · rw [if_pos hacct, if_pos hacct]; exact simW_updUser h _ hu rfl rfl rfl
    · rw [if_neg hacct, if_neg hacct]; exact h.congr (stEq_setUser_self hu)
  rcases rest with _ | ⟨rn, rest'⟩
  · exact W1
  · exact (simW_updUser W1 (u' := InvJoin.joinAttrs (chan :: acct :: rn :: rest') u)
      (fun u => { u with realname := rn }) (get?_set_self _ _ _) rfl rfl rfl).congr (stEq_setUser_setUser _ _ _ _)

theorem simW_joinBody {st : St} {r : Ref} (h : SimW st r) {k n : Bytes} {ch : Channel} {u : User}
    (hc : AMap.get? st.channels k = some ch) (hu : AMap.get? st.users n = some u)
    (hun : fold u.nick = n) (hk : fold ch.name = k) (chan : Bytes) (ext : List Bytes) :
    SimW (setUser (setChannel st k (ch.addUser u.nick)) n
            (InvJoin.joinAttrs (chan :: ext) (u.addChannel (ch.addUser u.nick).name)))
      (refAttrs (r.addMember k n) n ext) := by
  have W3 := simW_addMember h hc hu (a := u.nick) (b := ch.name) hun hk
  have W4 := simW_joinAttrs W3 (n := n) (u := u.addChannel ch.name) (get?_set_self _ _ _) chan ext
  rw [InvJoin.addUser_name]
  exact W4.congr (stEq_setUser_setUser _ _ _ _)

/-- The last step of `joinC`: our own JOIN tells us our ident and host. -/
theorem sim_joinMe {st : St} {r : Ref} (h : SimW st r) (cfg : Cfg) (src : Source) (o1 o2 : List Out) :
    ∃ st' outs, (if fold src.name = getID cfg st then
          (Except.ok ({ st with ident := src.ident, host := src.host }, o1) : M (St × List Out))
        else .ok (st, o2)) = .ok (st', outs) ∧
      SimW st' (if r.isMe cfg src.name then { r with myIdent := src.ident, myHost := src.host } else r) := by
  by_cases hme : fold src.name = getID cfg st
  · rw [if_pos hme, if_pos ((isMe_iff h cfg src.name).mpr hme)]
    exact ⟨_, _, rfl, h.scalars h.nick rfl rfl h.motd h.maxLine h.maxPrefix h.opts⟩
  · rw [if_neg hme, if_neg fun hm => hme ((isMe_iff h cfg src.name).mp hm)]
    exact ⟨_, _, rfl, h⟩

theorem sim_JOIN {st : St} {r : Ref} (cfg : Cfg) (e : Event) (hi : Inv st) (h : SimW st r)
    (hc : r.conformant cfg e = true) (hcmd : e.command = cJOIN) :
    ∃ st' outs, handleJOIN cfg st e = .ok (st', outs) ∧ SimW st' (r.cmdStep cfg e) := by
  obtain ⟨t, s, c, p⟩ := e
  subst hcmd
  match s, p, (Bool.and_eq_true_iff.mp (Bool.and_eq_true_iff.mp hc).2).2 with
  | some src, chan :: ext, hm =>
    have W1 := simW_ensureChan h chan (ne_nil_of_isValidChannel (Bool.and_eq_true_iff.mp hm).1)
    obtain ⟨hL1, ch, hch⟩ := InvJoin.ensureChannel_spec st chan hi.toInvL
    have W2 := simW_ensureUser W1 src
    obtain ⟨hcs, u, hu, hun, _⟩ := InvJoin.ensureUser_spec (InvJoin.ensureChannel st chan) src hL1
    have hch2 : AMap.get? (InvJoin.ensureUser (InvJoin.ensureChannel st chan) src).channels (fold chan) = some ch := by
      rw [hcs]; exact hch
    have W := simW_joinBody W2 hch2 hu hun.symm (hL1.chanKey _ ch hch).symm chan ext
    rw [handleJOIN_eq cfg st t src chan ext hch hu]
    conv => enter [1, st', 1, outs, 2, 2]; whnf
    exact sim_joinMe W cfg src _ _

/-- What one well-formed NAMES entry means, once its source is determined. -/
def refNamesBody (r : Ref) (c : Bytes) (syms : Bytes) (s : Source) : Ref :=
  ((r.ensureUser s).addMember c (fold s.name)).setPerms c (fold s.name) (permsFromPrefix syms)

theorem namesEntry_cases2 (k : Bytes) (st : St) (r : Ref) (part : Bytes) :
    (namesEntry k st part = .ok st ∧ r.namesEntry k part = r) ∨
      ∃ modes src, namesEntry k st part = InvJoin.namesBody k st modes src ∧
        r.namesEntry k part = refNamesBody r k modes src := by
  unfold namesEntry Ref.namesEntry
  rcases parseUserPrefix part with ⟨modes, nick, ok⟩
  dsimp only
  cases ok
  · exact Or.inl ⟨rfl, rfl⟩
  · cases nick.contains AT
    · cases isValidNick nick
      · exact Or.inl ⟨rfl, rfl⟩
      · exact Or.inr ⟨modes, ⟨nick, [], []⟩, rfl, rfl⟩
    · exact Or.inr ⟨modes, parseSource nick, rfl, rfl⟩

theorem namesBody_eq (k : Bytes) (st : St) (modes : Bytes) (src : Source) {ch : Channel} {u : User}
    (hch : AMap.get? st.channels k = some ch)
    (hcs : (InvJoin.ensureUser st src).channels = st.channels)
    (hu : (InvJoin.ensureUser st src).lookupUser src.name = some u) :
    InvJoin.namesBody k st modes src =
      .ok (setChannel (setUser (InvJoin.ensureUser st src) (fold src.name)
          { u.addChannel ch.name with
            perms := AMap.set (u.addChannel ch.name).perms (fold (ch.addUser (fold src.name)).name)
              (permsFromPrefix modes) }) k (ch.addUser (fold src.name))) := by
  unfold InvJoin.namesBody
  dsimp only
  rw [InvJoin.createUser_eq_ensureUser, hu]
  dsimp only
  rw [hcs, hch]
  rfl

/-- The loop invariant of NAMES: the invariant, the channel is still there, and the relation. -/
def NamesSim (k : Bytes) (st : St) (r : Ref) : Prop := InvJoin.NamesInv k st ∧ SimW st r

theorem namesBody_sim (k : Bytes) (st : St) (r : Ref) (modes : Bytes) (src : Source) (h : NamesSim k st r) :
    ∃ st', InvJoin.namesBody k st modes src = .ok st' ∧ NamesSim k st' (refNamesBody r k modes src) := by
  obtain ⟨hN, hsim⟩ := h
  have hL := hN.1.toInvL
  obtain ⟨ch, hch⟩ := hN.2
  obtain ⟨hcs, u, hu, _, _⟩ := InvJoin.ensureUser_spec st src hL
  have hk : k = fold ch.name := hL.chanKey _ ch hch
  obtain ⟨st', heq, hN'⟩ := InvJoin.namesBody_inv k st modes src hN
  rw [namesBody_eq k st modes src hch hcs hu] at heq ⊢
  refine ⟨_, rfl, Except.ok.inj heq ▸ hN', ?_⟩
  have W2 := simW_ensureUser hsim src
  have hch2 : AMap.get? (InvJoin.ensureUser st src).channels k = some ch := by rw [hcs]; exact hch
  have W3 := simW_addMember W2 hch2 hu (a := fold src.name) (b := ch.name) (fold_idem _) hk.symm
  have W5 := simW_setPerms W3 (n := fold src.name) (u := u.addChannel ch.name) k (permsFromPrefix modes)
    (permsFromPrefix modes) (get?_set_self _ _ _) (fun _ => rfl)
  rw [InvJoin.addUser_name, ← hk]
  generalize InvJoin.ensureUser st src = X at W5 ⊢
  exact W5.congr (StEq.of_users (setChannel X k _) (InvBase.get?_set_set _ _ _ _))

theorem namesEntry_sim (k : Bytes) (st : St) (r : Ref) (part : Bytes) (h : NamesSim k st r) :
    ∃ st', namesEntry k st part = .ok st' ∧ NamesSim k st' (r.namesEntry k part) := by
  rcases namesEntry_cases2 k st r part with ⟨he, hr⟩ | ⟨modes, src, he, hr⟩
  · rw [he, hr]; exact ⟨st, rfl, h⟩
  · rw [he, hr]; exact namesBody_sim k st r modes src h

theorem names_foldl_sim (k : Bytes) (parts : List Bytes) (st : St) (r : Ref) (h : NamesSim k st r) :
    ∃ st', parts.foldlM (namesEntry k) st = .ok st' ∧
      NamesSim k st' (parts.foldl (fun r p => r.namesEntry k p) r) := by
  induction parts generalizing st r with
  | nil => exact ⟨st, rfl, h⟩
  | cons p ps ih =>
    obtain ⟨st1, he, h1⟩ := namesEntry_sim k st r p h
    rw [List.foldlM_cons, he, List.foldl_cons]
    exact ih st1 _ h1

theorem handleNAMES_eq (st : St) (e : Event) {a b chan d : Bytes} {rest : List Bytes}
    (hp : e.params = a :: b :: chan :: d :: rest) {ch : Channel} (hch : st.lookupChannel chan = some ch) :
    handleNAMES st e = (splitOnByte SP e.last).foldlM (namesEntry (fold chan)) st := by
  unfold handleNAMES
  rw [hp, if_neg (by simp only [List.length_cons]; omega)]
  show (match st.lookupChannel chan with
    | none => Except.ok st
    | some _ => List.foldlM (namesEntry (fold chan)) st (splitOnByte SP e.last)) = _
  rw [hch]

theorem sim_NAMES {st : St} {r : Ref} (cfg : Cfg) (e : Event) (hi : Inv st) (h : SimW st r)
    (hc : r.conformant cfg e = true) (hcmd : e.command = c353) :
    ∃ st', handleNAMES st e = .ok st' ∧ SimW st' (r.cmdStep cfg e) := by
  obtain ⟨t, s, c, p⟩ := e
  subst hcmd
  have hc := (Bool.and_eq_true_iff.mp hc).2
  conv at hc => lhs; whnf
  match p, hc with
  | a :: b :: chan :: d :: rest, hm =>
    have hk : AMap.contains r.chans (fold chan) = true := (Bool.and_eq_true_iff.mp hm).1
    obtain ⟨ch, hch⟩ := get?_of_known h.chans hk
    rw [handleNAMES_eq st _ rfl hch]
    conv => enter [1, st', 2, 2]; whnf
    show ∃ st', _ = Except.ok st' ∧ SimW st' (if AMap.contains r.chans (fold chan) then _ else _)
    rw [if_pos hk]
    obtain ⟨st', heq, _, hs⟩ := names_foldl_sim (fold chan) (splitOnByte SP _) st r ⟨⟨hi, ch, hch⟩, h⟩
    exact ⟨st', heq, hs⟩

end Girc.Proofs.SimJoin
