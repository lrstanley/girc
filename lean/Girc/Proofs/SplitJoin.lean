import Girc.Spec.SplitSpec
import Girc.Proofs.BytesLemmas
/-
  C11: Join/List batching.
-/
namespace Girc.Proofs.SplitJoin
open Girc Girc.Model Girc.Spec Girc.Proofs.BytesLemmas

theorem batch_flat (max : Int) : ∀ (rest : List Bytes) (buffer : Bytes),
    (∀ c ∈ rest, c ≠ [] ∧ 0x2C ∉ c) → buffer ≠ [] →
    (batchChannels max rest buffer).flatMap (splitOnByte 0x2C) = splitOnByte 0x2C buffer ++ rest
  | [], buffer, _, _ => by rw [batchChannels, List.flatMap_singleton, List.append_nil]
  | ch :: rest, buffer, h, hb => by
    obtain ⟨hch, hrest⟩ := List.forall_mem_cons.mp h
    have hbe : buffer.isEmpty = false := List.isEmpty_eq_false_iff.mpr hb
    rw [batchChannels]
    split
    · rw [List.flatMap_cons, batch_flat max rest ch hrest hch.1, splitOnByte_of_not_mem _ _ hch.2]
      rfl
    · rw [hbe, if_neg Bool.false_ne_true, batch_flat max rest _ hrest (by simp), List.append_assoc,
        List.singleton_append, splitOnByte_append_sep, splitOnByte_of_not_mem _ _ hch.2, List.append_assoc]
      rfl

theorem join_all_once (max : Int) (chans : List Bytes) (h : ∀ c ∈ chans, c ≠ [] ∧ 0x2C ∉ c) :
    (joinBatches max chans).flatMap (splitOnByte 0x2C) = chans := by
  cases chans with
  | nil => rfl
  | cons ch rest =>
    obtain ⟨hch, hrest⟩ := List.forall_mem_cons.mp h
    show (batchChannels max rest ch).flatMap _ = _
    rw [batch_flat max rest ch hrest hch.1, splitOnByte_of_not_mem _ _ hch.2]
    rfl

theorem batch_fit (max : Int) (chans : List Bytes) : ∀ (rest : List Bytes) (buffer : Bytes),
    (∀ c ∈ rest, c ∈ chans) → ((buffer.length : Int) ≤ max ∨ buffer ∈ chans) →
    ∀ b ∈ batchChannels max rest buffer, (b.length : Int) ≤ max ∨ b ∈ chans
  | [], buffer, _, hb => by
    rw [batchChannels]
    exact List.forall_mem_singleton.mpr hb
  | ch :: rest, buffer, h, hb => by
    obtain ⟨hch, hrest⟩ := List.forall_mem_cons.mp h
    rw [batchChannels]
    split
    · exact List.forall_mem_cons.mpr ⟨hb, batch_fit max chans rest ch hrest (Or.inr hch)⟩
    · rename_i hcond
      apply batch_fit max chans rest _ hrest
      cases hbe : buffer.isEmpty
      · rw [hbe] at hcond
        simp only [Bool.not_false, Bool.true_and, decide_eq_true_eq] at hcond
        exact Or.inl (by rw [if_neg Bool.false_ne_true]; omega)
      · exact Or.inr hch

end Girc.Proofs.SplitJoin

namespace Girc.Proofs.Split
open Girc Girc.Model Girc.Spec

/-- Join / List: every given channel is sent exactly once, in order (C11). -/
theorem join_all_once (max : Int) (chans : List Bytes) (h : ∀ c ∈ chans, c ≠ [] ∧ 0x2C ∉ c) :
    (joinBatches max chans).flatMap (splitOnByte 0x2C) = chans := by
  exact SplitJoin.join_all_once max chans h

end Girc.Proofs.Split
