import Girc.Proofs.AMapLemmas
/-
  Two association-list maps related through a view (`∀ k, (get? m k).map f = get? m' k`).
-/
namespace Girc.Proofs.SimAMap
open Girc Girc.Proofs.InvBase

variable {α β : Type}

section view
variable {f : α → β} {m : AMap α} {m' : AMap β}

theorem get?_of_known (h : ∀ k, (AMap.get? m k).map f = AMap.get? m' k) {k : Bytes}
    (hk : AMap.contains m' k = true) : ∃ v, AMap.get? m k = some v := by
  obtain ⟨v, hv⟩ := (contains_iff_get? _ _).mp hk
  have := h k
  rw [hv] at this
  cases hc : AMap.get? m k with
  | none => rw [hc] at this; cases this
  | some c => exact ⟨c, rfl⟩

theorem known_of_get? (h : ∀ k, (AMap.get? m k).map f = AMap.get? m' k) {k : Bytes} {v : α}
    (hk : AMap.get? m k = some v) : AMap.get? m' k = some (f v) := by
  rw [← h k, hk]; rfl

theorem contains_of_view (h : ∀ k, (AMap.get? m k).map f = AMap.get? m' k) {k : Bytes} {v : α}
    (hk : AMap.get? m k = some v) : AMap.contains m' k = true :=
  contains_of_get? (known_of_get? h hk)

theorem contains_eq_of_view (h : ∀ k, (AMap.get? m k).map f = AMap.get? m' k) (k : Bytes) :
    AMap.contains m' k = AMap.contains m k := by
  unfold AMap.contains
  rw [← h k, Option.isSome_map]

theorem view_none (h : ∀ k, (AMap.get? m k).map f = AMap.get? m' k) {k : Bytes}
    (hk : AMap.get? m k = none) : AMap.get? m' k = none := by
  rw [← h k, hk]; rfl

theorem none_of_view (h : ∀ k, (AMap.get? m k).map f = AMap.get? m' k) {k : Bytes}
    (hk : AMap.get? m' k = none) : AMap.get? m k = none := by
  rw [← h k] at hk
  exact Option.map_eq_none_iff.mp hk

theorem view_set (h : ∀ k, (AMap.get? m k).map f = AMap.get? m' k) (k : Bytes) (v : α) :
    ∀ k', (AMap.get? (AMap.set m k v) k').map f = AMap.get? (AMap.set m' k (f v)) k' := by
  intro k'
  rw [get?_set, get?_set]
  by_cases e : k' = k
  · rw [if_pos e, if_pos e]; rfl
  · rw [if_neg e, if_neg e]; exact h k'

theorem view_set_left (h : ∀ k, (AMap.get? m k).map f = AMap.get? m' k) {k : Bytes} {v v' : α}
    (hk : AMap.get? m k = some v) (hv : f v' = f v) :
    ∀ k', (AMap.get? (AMap.set m k v') k').map f = AMap.get? m' k' := by
  intro k'
  rw [get?_set]
  by_cases e : k' = k
  · rw [if_pos e, e, ← h k, hk]; exact congrArg some hv
  · rw [if_neg e]; exact h k'

theorem view_erase (h : ∀ k, (AMap.get? m k).map f = AMap.get? m' k) (k : Bytes) :
    ∀ k', (AMap.get? (AMap.erase m k) k').map f = AMap.get? (AMap.erase m' k) k' := by
  intro k'
  rw [get?_erase, get?_erase]
  by_cases e : k' = k
  · rw [if_pos e, if_pos e]; rfl
  · rw [if_neg e, if_neg e]; exact h k'

end view

end Girc.Proofs.SimAMap
