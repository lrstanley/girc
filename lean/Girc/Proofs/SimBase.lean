import Girc.Proofs.SimRel
/-
  C04: the relation holds initially (`sim_init`), it determines everything the state API shows (`observe_eq`:
  sorted key lists and sorted membership lists are functions of the reference state), and the account-tag
  step preserves it without changing what a conformant server may send next.
-/
namespace Girc.Proofs.SimBase
open Girc Girc.Model Girc.Spec
open Girc.Proofs.InvBase Girc.Proofs.SimAMap Girc.Proofs.SimJoin

theorem sim_init : Sim ({} : St) ({} : Ref) :=
  { inv := InvBase.inv_init
    nick := rfl, ident := rfl, host := rfl, motd := rfl, maxLine := rfl, maxPrefix := rfl
    opts := fun _ => rfl
    chans := fun _ => rfl
    chanModesWF := fun _ _ h => by cases h
    users := fun _ => rfl
    members := fun _ _ h => by cases h
    membersKnown := fun _ _ h => by cases h
    membersNodup := List.nodup_nil
    perms := fun _ _ _ h => by cases h
    permsKnown := fun _ h => by cases h
    chanKeysNodup := List.nodup_nil
    userKeysNodup := List.nodup_nil
    chanKeysNonempty := fun _ h => by cases h }

theorem nodup_eraseDups_aux : ∀ (n : Nat) (l : List Bytes), l.length ≤ n → l.eraseDups.Nodup
  | _, [], _ => by simp
  | 0, _ :: _, h => by simp at h
  | n + 1, a :: as, h => by
    rw [List.eraseDups_cons, List.nodup_cons]
    refine ⟨?_, nodup_eraseDups_aux n _ ?_⟩
    · rw [List.mem_eraseDups]; simp
    · have := List.length_filter_le (fun b => !b == a) as
      simp only [List.length_cons] at h
      omega

theorem nodup_eraseDups (l : List Bytes) : l.eraseDups.Nodup := nodup_eraseDups_aux l.length l (Nat.le_refl _)

theorem sortedStrict_sortedKeys {β : Type} (m : AMap β) : sortedStrict (sortedKeys m) = true :=
  sortedStrict_sortBytes (nodup_eraseDups _)

theorem mem_sortedKeys {β : Type} (m : AMap β) (k : Bytes) : k ∈ sortedKeys m ↔ k ∈ AMap.keys m := by
  unfold sortedKeys
  rw [mem_sortBytes, List.mem_eraseDups]

theorem sortedKeys_congr {α β : Type} {m : AMap α} {m' : AMap β}
    (h : ∀ k, AMap.contains m' k = AMap.contains m k) : sortedKeys m = sortedKeys m' := by
  apply sortedStrict_ext (sortedStrict_sortedKeys m) (sortedStrict_sortedKeys m')
  intro k
  rw [mem_sortedKeys, mem_sortedKeys, ← contains_iff, ← contains_iff, h]

theorem filterMap_congr_mem {α β : Type} {l : List α} {f g : α → Option β} (h : ∀ x ∈ l, f x = g x) :
    l.filterMap f = l.filterMap g := by
  induction l with
  | nil => rfl
  | cons x xs ih =>
    rw [List.filterMap_cons, List.filterMap_cons, h x (List.mem_cons_self ..),
      ih (fun y hy => h y (List.mem_cons_of_mem _ hy))]

theorem mem_usersOf (r : Ref) (k n : Bytes) : n ∈ r.usersOf k ↔ (k, n) ∈ r.members := by
  simp [Ref.usersOf]

theorem mem_chansOf (r : Ref) (n k : Bytes) : k ∈ r.chansOf n ↔ (k, n) ∈ r.members := by
  simp [Ref.chansOf]

theorem nodup_map_filter {l : List (Bytes × Bytes)} (h : l.Nodup) (p : Bytes × Bytes → Bool) (f : Bytes × Bytes → Bytes)
    (hinj : ∀ a b, p a = true → p b = true → f a = f b → a = b) : ((l.filter p).map f).Nodup := by
  rw [List.Nodup, List.pairwise_map, List.pairwise_filter]
  exact h.imp fun hne ha hb e => hne (hinj _ _ ha hb e)

theorem nodup_usersOf {r : Ref} (h : r.members.Nodup) (k : Bytes) : (r.usersOf k).Nodup :=
  nodup_map_filter h _ _ fun a b ha hb e =>
    Prod.ext ((of_decide_eq_true ha).trans (of_decide_eq_true hb).symm) e

theorem nodup_chansOf {r : Ref} (h : r.members.Nodup) (n : Bytes) : (r.chansOf n).Nodup :=
  nodup_map_filter h _ _ fun a b ha hb e =>
    Prod.ext e ((of_decide_eq_true ha).trans (of_decide_eq_true hb).symm)

theorem toBytes_eq_modesString (m : CModes) :
    m.toBytes = modesString (m.modes.map fun x => (x.name, x.args)) := by
  unfold CModes.toBytes modesString
  rw [List.length_map, List.flatMap_map, List.flatMap_map]

theorem _root_.Girc.Spec.Sim.chan_users {st : St} {r : Ref} (h : Sim st r) {k : Bytes} {ch : Channel}
    (hc : AMap.get? st.channels k = some ch) : ch.users = sortBytes (r.usersOf k) := by
  apply sortedStrict_ext (h.inv.chanSorted k ch (get?_some_mem hc)).1
    (sortedStrict_sortBytes (nodup_usersOf h.membersNodup k))
  intro n
  rw [mem_sortBytes, mem_usersOf, h.members k ch hc n]

theorem _root_.Girc.Spec.Sim.mem_user_chans {st : St} {r : Ref} (h : Sim st r) {n : Bytes} {u : User}
    (hu : AMap.get? st.users n = some u) (k : Bytes) : k ∈ u.chans ↔ (k, n) ∈ r.members :=
  (SimW.of_sim h).umembers n u hu k

theorem _root_.Girc.Spec.Sim.user_chans {st : St} {r : Ref} (h : Sim st r) {n : Bytes} {u : User}
    (hu : AMap.get? st.users n = some u) : u.chans = sortBytes (r.chansOf n) := by
  apply sortedStrict_ext (h.inv.userSorted n u (get?_some_mem hu)).1
    (sortedStrict_sortBytes (nodup_chansOf h.membersNodup n))
  intro k
  rw [mem_sortBytes, mem_chansOf, h.mem_user_chans hu k]

theorem _root_.Girc.Spec.Sim.user_perms {st : St} {r : Ref} (h : Sim st r) {n : Bytes} {u : User}
    (hu : AMap.get? st.users n = some u) :
    (u.chans.map fun c => (c, (AMap.get? u.perms c).getD {})) =
      (sortBytes (r.chansOf n)).map fun c => (c, r.getPerms c n) := by
  rw [← h.user_chans hu]
  apply List.map_congr_left
  intro c hc
  rw [h.perms c n u ((h.mem_user_chans hu c).mp hc) hu]

theorem observe_channels {st : St} {r : Ref} (h : Sim st r) :
    (observe st).channels = r.observe.channels := by
  unfold observe Ref.observe
  simp only
  rw [sortedKeys_congr (contains_eq_of_view h.chans)]
  apply filterMap_congr_mem
  intro k _
  rw [← h.chans k]
  cases hg : AMap.get? st.channels k with
  | none => rfl
  | some ch =>
    simp only [Option.map_some]
    rw [h.chan_users hg, toBytes_eq_modesString]
    rfl

theorem observe_users {st : St} {r : Ref} (h : Sim st r) :
    (observe st).users = r.observe.users := by
  unfold observe Ref.observe
  simp only
  rw [sortedKeys_congr (contains_eq_of_view h.users)]
  apply filterMap_congr_mem
  intro n _
  rw [← h.users n]
  cases hg : AMap.get? st.users n with
  | none => rfl
  | some u =>
    simp only [Option.map_some]
    rw [h.user_perms hg, h.user_chans hg]
    rfl

theorem observe_options {st : St} {r : Ref} (h : Sim st r) :
    (observe st).options = r.observe.options := by
  unfold observe Ref.observe
  simp only
  rw [sortedKeys_congr (m := st.serverOptions) (m' := r.options)
    (fun k => by unfold AMap.contains; rw [h.opts k])]
  apply List.map_congr_left
  intro k _
  rw [h.opts k]

/-- Related states show the same thing through the state API. -/
theorem observe_eq {st : St} {r : Ref} (h : Sim st r) : observe st = r.observe := by
  have hc := observe_channels h
  have hu := observe_users h
  have ho := observe_options h
  have e1 : (observe st).nick = r.observe.nick := h.nick
  have e2 : (observe st).ident = r.observe.ident := h.ident
  have e3 : (observe st).host = r.observe.host := h.host
  have e4 : (observe st).motd = r.observe.motd := h.motd
  have e5 : (observe st).maxEventLength = r.observe.maxEventLength := by
    show st.maxLineLength - st.maxPrefixLength = r.maxLine - r.maxPrefix
    rw [h.maxLine, h.maxPrefix]
  generalize observe st = a at *
  generalize r.observe = b at *
  cases a; cases b
  simp only at hc hu ho e1 e2 e3 e4 e5
  subst hc hu ho e1 e2 e3 e4 e5
  rfl

theorem updUser_perms (r : Ref) (key : Bytes) (g : RUser → RUser) : (r.updUser key g).perms = r.perms := by
  unfold Ref.updUser; split <;> rfl

/-- Conformance reads who the client is, the membership relation, the channels, and which users are
    known: an attribute update of a user changes none of these. -/
theorem conformant_updUser (cfg : Cfg) (r : Ref) (key : Bytes) (g : RUser → RUser) (e : Event) :
    (r.updUser key g).conformant cfg e = r.conformant cfg e := by
  unfold Ref.updUser
  cases hu : AMap.get? r.users key with
  | none => rfl
  | some u =>
    have hk : AMap.keys (AMap.set r.users key (g u)) = AMap.keys r.users :=
      keys_set_of_mem _ _ (get?_some_mem_keys hu)
    have hc : ∀ n, AMap.contains (AMap.set r.users key (g u)) n = AMap.contains r.users n := fun n => by
      rw [Bool.eq_iff_iff, contains_iff, contains_iff, hk]
    have hemp : (AMap.set r.users key (g u)).isEmpty = r.users.isEmpty := by
      rw [← List.isEmpty_map (f := (·.1)), ← List.isEmpty_map (f := (·.1)) (l := r.users)]
      exact congrArg List.isEmpty hk
    unfold Ref.conformant
    simp only [Ref.knownUser, Ref.knownChan, Ref.isMe, Ref.myNick, Ref.isMember, hc, hemp]
    rfl

theorem conformant_tagStep (cfg : Cfg) (r : Ref) (e : Event) :
    (r.tagStep e).conformant cfg e = r.conformant cfg e := by
  unfold Ref.tagStep
  split
  · split
    · rfl
    · split
      · exact conformant_updUser cfg r _ _ e
      · rfl
  · rfl

theorem simW_tagStep {st : St} {r : Ref} (e : Event) (h : SimW st r) : SimW (handleTags st e) (r.tagStep e) := by
  unfold handleTags Ref.tagStep
  cases e.tags with
  | none => exact h
  | some t =>
    cases e.source with
    | none => exact h
    | some src =>
      dsimp only
      split
      · exact h
      · cases tagsGet (some t) sAccount with
        | none => exact h
        | some a =>
          have := simW_updUser_fold h (fold src.name) (fun u => { u with account := a })
            (fun u => { u with account := a }) (fun _ => rfl) (fun _ => ⟨rfl, rfl⟩)
          rw [fold_idem] at this
          exact this

end Girc.Proofs.SimBase
