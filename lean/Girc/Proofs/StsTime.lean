import Girc.Model.StsTime
import Girc.Proofs.ProtocolB
/- Proofs about the timed STS policy model (`Girc/Model/StsTime.lean`), property C10. -/
namespace Girc.Proofs.StsTime
open Girc Girc.Model Girc.Proofs.ProtocolB

theorem maxDuration_eq : maxDuration = 9223372036854775807 := rfl

/-- `time.Since` of an instant not in the future saturates only upwards. -/
theorem since_of_le {now t : Int} (h : t ≤ now) : since now t = min (now - t) maxDuration := by
  simp only [since, maxDuration, minDuration]
  omega

theorem wholeSeconds_nonneg (d : Int) (h : 0 ≤ d) : wholeSeconds d = d / 1000000000 :=
  Int.tdiv_eq_ediv_of_nonneg h

/-- Expiry of a policy received no later than `now`, saturation of `time.Since` included. -/
theorem expiredAt_of_le {now : Int} {s : TSts} (h : s.received ≤ now) :
    expiredAt now s = decide (min (now - s.received) maxDuration / 1000000000 > s.persistenceDuration) := by
  rw [expiredAt, since_of_le h, wholeSeconds_nonneg _ (by have := maxDuration_eq; omega)]

/-- Not expired during the whole window `[received, received + (duration+1) s)` (empty unless `duration ≥ 0`). -/
theorem not_expired_within (now : Int) (s : TSts) (h1 : s.received ≤ now)
    (h2 : now < s.received + (s.persistenceDuration + 1) * 1000000000) : expiredAt now s = false := by
  rw [expiredAt_of_le h1, decide_eq_false_iff_not]
  omega

/-- A failed dial while the policy is in force, or with fallback disabled, changes nothing. -/
theorem tstep_dialFail_kept (s : TSts) (now : Int) (dfb : Bool) (h : (expiredAt now s && !dfb) = false) :
    tstep s (.dialFail now dfb) = (s, if s.enabled then .stsUpgradeFailed else .plainError) := by
  simp only [tstep, tstepG, h, Bool.false_eq_true, if_false]

/-- A failed dial of an expired policy with fallback allowed resets it and stamps `lastFailed`. -/
theorem tstep_dialFail_dropped (s : TSts) (now : Int) (h : expiredAt now s = true) :
    tstep s (.dialFail now false) =
      ({ s with toSts := s.toSts.reset, lastFailed := some now }, if s.enabled then .stsFallback else .plainError) := by
  simp only [tstep, tstepG, h, Bool.not_false, Bool.and_self, if_true]

/-- A clean end of a connection that was not an upgrade request re-bases an enabled policy. -/
theorem tstep_cleanEnd_rebase (s : TSts) (t : Int) (hb : s.beginUpgrade = false) (he : s.enabled = true) :
    tstep s (.cleanEnd t) = ({ s with received := t }, .nothing) := by
  simp only [tstep, tstepG, hb, he, Bool.false_eq_true, if_false, Bool.and_self, if_true]

theorem tstep_ackPlain_usable (s : TSts) (now p : Int) (hp : portUsable p = true) :
    tstep s (.ackPlain now (some p)) = ({ s with upgradePort := p, beginUpgrade := true }, .upgradeInit) := by
  simp only [tstep, tstepG, hp, if_true]

theorem portUsable_iff {p : Int} : portUsable p = true ↔ 21 ≤ p ∧ p ≤ 65535 := by
  simp only [portUsable, Bool.not_eq_true', Bool.or_eq_false_iff, decide_eq_false_iff_not]
  omega

theorem enabled_of_usable {p : Int} (hp : portUsable p = true) : decide (p > 0) = true :=
  decide_eq_true (by have := portUsable_iff.mp hp; omega)

/-- The outcome of a failed dial distinguishes "dropped" from "kept": -/
theorem tstep_dialFail_outcome (s : TSts) (now : Int) (dfb : Bool) :
    (tstep s (.dialFail now dfb)).2 =
      if s.enabled then (if expiredAt now s && !dfb then .stsFallback else .stsUpgradeFailed) else .plainError := rfl

theorem tstep_dialFail_clock (s : TSts) (now : Int) (dfb : Bool) :
    (tstep s (.dialFail now dfb)).1.received = s.received ∧
    (tstep s (.dialFail now dfb)).1.lastFailed = if expiredAt now s && !dfb then some now else s.lastFailed := ⟨rfl, rfl⟩

theorem tstepNoRebase_cleanEnd_received (s : TSts) (now : Int) :
    (tstepNoRebase s (.cleanEnd now)).1.received = s.received := by
  simp only [tstepNoRebase, tstepG]
  cases hb : s.beginUpgrade <;> simp

/-- The two step functions differ on `cleanEnd` only. -/
theorem tstepNoRebase_eq (s : TSts) (e : TEv) (h : ∀ now, e ≠ .cleanEnd now) : tstepNoRebase s e = tstep s e := by
  cases e with
  | cleanEnd now => exact absurd rfl (h now)
  | ackTls now d => cases d <;> rfl
  | ackPlain now p => cases p <;> rfl
  | errorEnd now => rfl
  | dialFail now dfb => rfl

theorem tstep_errorEnd (s : TSts) (now : Int) : tstep s (.errorEnd now) = (s, .nothing) := rfl

theorem usablePort_usable (v : CapVal) (p : Int) (h : usablePort v = some p) : portUsable p = true :=
  portUsable_iff.mpr (usablePort_range h)

/-- After a clean disconnection at `t`, an enabled policy with duration `d ≥ 0` survives every failed dial during
    `[t, t + (d+1) s)`, whatever `received` was before (however long the connection had lasted). -/
theorem rebase_keeps_policy (s : TSts) (t now : Int) (dfb : Bool) (he : s.enabled = true) (hb : s.beginUpgrade = false)
    (h1 : t ≤ now) (h2 : now < t + (s.persistenceDuration + 1) * 1000000000) :
    (tstep s (.cleanEnd t)).1 = { s with received := t } ∧
    tstep (tstep s (.cleanEnd t)).1 (.dialFail now dfb) = ((tstep s (.cleanEnd t)).1, .stsUpgradeFailed) := by
  rw [tstep_cleanEnd_rebase s t hb he]
  have hx : expiredAt now { s with received := t } = false := not_expired_within now { s with received := t } h1 h2
  refine ⟨rfl, ?_⟩
  rw [tstep_dialFail_kept _ now dfb (by rw [hx]; rfl)]
  exact congrArg _ (if_pos he)

/-- One step under the hypothesis of `never_downgraded`. -/
theorem step_kept (s : TSts) (e : TEv) (es : List TEv) (he : s.enabled = true) (hb : s.beginUpgrade = false)
    (hok : lifetimeOk s.received s.persistenceDuration (e :: es) = true) :
    (tstep s e).1.enabled = true ∧ (tstep s e).1.upgradePort = s.upgradePort ∧ (tstep s e).1.beginUpgrade = false ∧
    lifetimeOk (tstep s e).1.received (tstep s e).1.persistenceDuration es = true ∧
    ((tstep s e).2 = .nothing ∨ (tstep s e).2 = .abort ∨ (tstep s e).2 = .stsUpgradeFailed) ∧
    (∀ now fb, e = .dialFail now fb → (tstep s e).2 = .stsUpgradeFailed) := by
  cases e with
  | ackTls now d =>
    cases d with
    | none => exact ⟨he, rfl, hb, hok, .inr (.inl rfl), fun _ _ h => TEv.noConfusion h⟩
    | some d => exact ⟨he, rfl, hb, hok, .inl rfl, fun _ _ h => TEv.noConfusion h⟩
  | ackPlain now p => cases hok
  | cleanEnd now =>
    rw [tstep_cleanEnd_rebase s now hb he]
    exact ⟨he, rfl, hb, hok, .inl rfl, fun _ _ h => TEv.noConfusion h⟩
  | errorEnd now => exact ⟨he, rfl, hb, hok, .inl rfl, fun _ _ h => TEv.noConfusion h⟩
  | dialFail now dfb =>
    rw [lifetimeOk, Bool.and_eq_true] at hok
    have hdrop : (expiredAt now s && !dfb) = false := by
      cases dfb
      · simpa [expiredAt] using hok.1
      · exact Bool.and_false _
    rw [tstep_dialFail_kept s now dfb hdrop, if_pos he]
    exact ⟨he, rfl, hb, hok.2, .inr (.inr rfl), fun _ _ _ => rfl⟩

/-- History level: an enabled policy is never downgraded along any history satisfying `lifetimeOk`. -/
theorem never_downgraded (es : List TEv) : ∀ (s : TSts), s.enabled = true → s.beginUpgrade = false →
    lifetimeOk s.received s.persistenceDuration es = true →
    ∀ x ∈ ttrace s es,
      x.2.1.enabled = true ∧ x.2.1.upgradePort = s.upgradePort ∧
      (∀ cp ssl, planDial cp ssl x.2.1.toSts = (s.upgradePort, true)) ∧
      (∀ now fb, x.1 = .dialFail now fb → x.2.2 = .stsUpgradeFailed) ∧
      (x.2.2 = .nothing ∨ x.2.2 = .abort ∨ x.2.2 = .stsUpgradeFailed) := by
  induction es with
  | nil => intro s _ _ _ x hx; cases hx
  | cons e es ih =>
    intro s he hb hok x hx
    obtain ⟨h1, h2, h3, h4, h5, h6⟩ := step_kept s e es he hb hok
    rcases List.mem_cons.mp hx with rfl | hx
    · exact ⟨h1, h2, fun cp ssl => h2 ▸ (policy_sticks cp ssl (tstep s e).1.toSts h1).1, h6, h5⟩
    · exact h2 ▸ ih (tstep s e).1 h1 h3 h4 x hx

/-- …and so is the final state. -/
theorem trun_kept (es : List TEv) : ∀ (s : TSts), s.enabled = true → s.beginUpgrade = false →
    lifetimeOk s.received s.persistenceDuration es = true →
    (trun s es).enabled = true ∧ (trun s es).upgradePort = s.upgradePort := by
  induction es with
  | nil => exact fun s he _ _ => ⟨he, rfl⟩
  | cons e es ih =>
    intro s he hb hok
    obtain ⟨h1, h2, h3, h4, _, _⟩ := step_kept s e es he hb hok
    exact h2 ▸ ih (tstep s e).1 h1 h3 h4

/-- Aborted acknowledgements leave the stored policy (port, duration, clocks) exactly as it was. -/
theorem abort_not_retained (s : TSts) (now : Int) :
    tstep s (.ackPlain now none) = (s, .abort) ∧ tstep s (.ackTls now none) = (s, .abort) ∧
    ∀ p, portUsable p = false → tstep s (.ackPlain now (some p)) = (s, .abort) := by
  refine ⟨rfl, rfl, ?_⟩
  intro p hp
  simp [tstep, tstepG, hp]

/-- Every event but a failed dial of an expired policy with fallback allowed leaves `lastFailed` alone and an
    enabled policy enabled. -/
theorem tstep_drops_or_keeps (s : TSts) (e : TEv) :
    (∃ now, e = .dialFail now false ∧ expiredAt now s = true) ∨
    ((tstep s e).1.lastFailed = s.lastFailed ∧ (s.enabled = true → (tstep s e).1.enabled = true)) := by
  cases e with
  | ackTls now d => cases d <;> exact .inr ⟨rfl, id⟩
  | ackPlain now p =>
    cases p with
    | none => exact .inr ⟨rfl, id⟩
    | some p =>
      cases hp : portUsable p
      · rw [(abort_not_retained s now).2.2 p hp]; exact .inr ⟨rfl, id⟩
      · rw [tstep_ackPlain_usable s now p hp]; exact .inr ⟨rfl, fun _ => enabled_of_usable hp⟩
  | cleanEnd now =>
    simp only [tstep, tstepG]
    split
    · exact .inr ⟨rfl, id⟩
    · split <;> exact .inr ⟨rfl, id⟩
  | errorEnd now => exact .inr ⟨rfl, id⟩
  | dialFail now dfb =>
    cases hx : expiredAt now s && !dfb
    · rw [tstep_dialFail_kept s now dfb hx]; exact .inr ⟨rfl, id⟩
    · rw [Bool.and_eq_true, Bool.not_eq_true'] at hx
      exact .inl ⟨now, hx.2 ▸ rfl, hx.1⟩

/-- The only way an enabled policy becomes disabled in one step: a failed dial while expired with fallback allowed.
    Then `lastFailed` is set and the next dial is the configured address, TLS only if configured. -/
theorem only_expired_fallback_drops (s : TSts) (e : TEv) (he : s.enabled = true)
    (hdis : (tstep s e).1.enabled = false) :
    ∃ now, e = .dialFail now false ∧ expiredAt now s = true ∧ (tstep s e).2 = .stsFallback ∧
      (tstep s e).1.lastFailed = some now ∧ (tstep s e).1.toSts = s.toSts.reset ∧
      ∀ cp ssl, planDial cp ssl (tstep s e).1.toSts = (cp, ssl) := by
  obtain ⟨now, rfl, hx⟩ | h := tstep_drops_or_keeps s e
  case inr => rw [h.2 he] at hdis; cases hdis
  rw [tstep_dialFail_dropped s now hx]
  exact ⟨now, rfl, hx, if_pos he, rfl, rfl, fun cp ssl => by simp [planDial, Sts.reset, Sts.enabled]⟩

end Girc.Proofs.StsTime
