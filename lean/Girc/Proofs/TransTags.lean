import Girc.Proofs.TransBase
import Girc.Model.Tags
import Girc.Proofs.InvSort
import Girc.Model.Phase4Helpers
/-
  Translator equivalence, cap_tags.go.  `Tags` is a Go map, represented by an association list; a `range` over it is
  translated into a loop over the list's keys in their order, and every theorem here holds for every such list.
  The short final steps stand under the tie theorems in Props/TieWire.lean.
-/
namespace Girc.Proofs.Trans
open Girc Girc.Model Girc.Go Girc.Gen

theorem tagVal_cond (c : UInt8) : (decide (c < 0x21) || decide (c > 0x7E) || (c == 0x3B)) = !tagValByte c := by
  rw [tagValByte, Bool.not_not, Bool.beq_eq_decide_eq]

theorem validTagValue_loop1_eq (s : Bytes) :
    Fn.validTagValue_loop1 s (fuelTo 0 (len s)) 0 = .ok (if s.all tagValByte then .done () else .ret false) :=
  forAll s (Fn.validTagValue_loop1 s) tagValByte false
    (fun fuel => by simp only [gosem, Fn.validTagValue_loop1])
    (fun fuel n x hn hx => by
      simp only [gosem, Fn.validTagValue_loop1, decide_lt_len hn, atI_ofNat hx, tagVal_cond])
    0 (Nat.zero_le _)

theorem validTagValue_eq (v : Bytes) : Fn.validTagValue v = .ok (validTagValue v) := by
  simp only [gosem, Fn.validTagValue, validTagValue, validTagValue_loop1_eq]
  cases v.all tagValByte <;> rfl

theorem tagKey_cond (c : UInt8) :
    ((decide (c < 0x41) || decide (c > 0x5A)) && (decide (c < 0x61) || decide (c > 0x7A)) &&
      (decide (c < 0x2D) || decide (c > 0x39)) && (c != 0x5F)) = !tagKeyByte c := by
  rw [tagKeyByte, Bool.not_not]

theorem validTag_loop1_eq (s : Bytes) :
    Fn.validTag_loop1 s (fuelTo 0 (len s)) 0 = .ok (if s.all tagKeyByte then .done () else .ret false) :=
  forAll s (Fn.validTag_loop1 s) tagKeyByte false
    (fun fuel => by simp only [gosem, Fn.validTag_loop1])
    (fun fuel n x hn hx => by
      simp only [gosem, Fn.validTag_loop1, decide_lt_len hn, atI_ofNat hx, tagKey_cond])
    0 (Nat.zero_le _)

theorem validTag_eq (name : Bytes) : Fn.validTag name = .ok (validTag name) := by
  unfold Fn.validTag
  match name with
  | [] => rfl
  | [c] =>
    simp only [gosem, show decide (len [c] < 1) = false from rfl, show decide (len [c] ≥ 2) = false from rfl,
      validTag_loop1_eq, show validTag [c] = [c].all tagKeyByte from rfl]
    cases [c].all tagKeyByte <;> rfl
  | c :: d :: r =>
    have h1 : decide (len (c :: d :: r) < 1) = false := decide_eq_false (by simp only [len, List.length_cons]; omega)
    have h2 : decide (len (c :: d :: r) ≥ 2) = true := decide_eq_true (by simp only [len, List.length_cons]; omega)
    have hm : validTag (c :: d :: r) = (if c = 0x2B then d :: r else c :: d :: r).all tagKeyByte := by
      simp [validTag]
    simp only [gosem, h1, h2, atI_cons_zero, Bool.true_and, Fn.prefixUserTag, hm]
    by_cases hc : c = 0x2B
    · subst hc
      have hs : sliceI (0x2B :: d :: r) 1 (len (0x2B :: d :: r)) = .ok (d :: r) :=
        sliceI_toEnd (0x2B :: d :: r) 1 rfl (by simp only [List.length_cons]; omega)
      simp only [gosem, beq_self_eq_true, hs, validTag_loop1_eq]
      cases (d :: r).all tagKeyByte <;> rfl
    · simp only [gosem, beq_false_of_ne hc, hc, validTag_loop1_eq]
      cases (c :: d :: r).all tagKeyByte <;> rfl

/-- What `ParseTags` keeps of its loop's result; the position of `=` in the last item is scratch. -/
def ptOut : LoopR (Option Tags × Int) (Option Tags) → Option Tags
  | .done (t, _) => t
  | .ret t => t

theorem ParseTags_loop1_eq (parts : List Bytes) :
    (Fn.ParseTags_loop1 parts (fuelTo 0 (len parts)) (some []) 0 0).map ptOut =
      .ok (some (parts.foldl parseTagItem [])) :=
  forIdx_len parts (fun fuel (s : Tags × Int) i => (Fn.ParseTags_loop1 parts fuel (some s.1) s.2 i).map ptOut)
    (fun n s => some ((parts.drop n).foldl parseTagItem s.1))
    (fun fuel s => by simp only [↓reduceIte, gosem, Fn.ParseTags_loop1, Except.map, ptOut, List.drop_length, List.foldl_nil])
    (fun fuel n s p hn hx ih => by
      obtain ⟨m, hv⟩ := s
      simp only [↓reduceIte, gosem, Fn.ParseTags_loop1, decide_lt_len hn, atL_ofNat hx, validTag_eq, drop_cons_of_getElem? hx,
        List.foldl_cons, show Fn.prefixTagValue = 0x3D from rfl, parseTagItem, indexByteI]
      rcases hi : indexOf 0x3D p with _ | _ | k
      case some.succ =>
        have hk := BytesLemmas.indexOf_lt hi
        simp only [gosem, sliceI_before hi, sliceI_after hi,
          show decide (((k + 1 : Nat) : Int) < 1) = false from decide_eq_false (by omega),
          show decide (len p < ((k + 1 : Nat) : Int) + 1) = false from decide_eq_false (by rw [len]; omega)]
        exact ih (_, _)
      -- no `=`, or `=` in front: the whole item is a key
      all_goals
        cases validTag p
        all_goals
          simp only [↓reduceIte, gosem, show decide ((-1 : Int) < 1) = true from rfl, show decide (((0 : Nat) : Int) < 1) = true from rfl,
            Bool.true_or, mapSet_some]
          exact ih (_, _))
    0 ([], 0) (Nat.zero_le _)

theorem ParseTags_eq (raw : Bytes) : Fn.ParseTags raw = .ok (some (parseTags raw)) := by
  have tail (r : Bytes) :
      (Fn.ParseTags_loop1 (splitOnByte 0x3B r) (fuelTo 0 (len (splitOnByte 0x3B r))) (some []) 0 0 >>= fun x =>
        match x with
        | .ret ret_ => Except.ok ret_
        | .done (st1_, _) => Except.ok st1_) = .ok (some ((splitOnByte 0x3B r).foldl parseTagItem [])) := by
    obtain ⟨x, hx, hv⟩ := map_eq_ok (ParseTags_loop1_eq (splitOnByte 0x3B r))
    rw [hx]
    cases x <;> exact congrArg Except.ok hv
  unfold Fn.ParseTags parseTags
  simp only [gosem, decide_len_pos, show strOfByte Fn.tagSeparator = [0x3B] from rfl, split_one, show Fn.prefixTag = 0x40 from rfl]
  cases raw with
  | nil => exact tail []
  | cons c r =>
    simp only [gosem, atI_cons_zero, List.length_cons, Nat.succ_pos, decide_true, gt_iff_lt, List.head?_cons, Option.some.injEq]
    by_cases hc : c = 0x40
    · have hs : sliceI (c :: r) 1 (len (c :: r)) = .ok r := sliceI_toEnd (c :: r) 1 rfl (Nat.le_add_left 1 _)
      simp only [↓reduceIte, gosem, hc, beq_self_eq_true, Bool.and_self, hc ▸ hs]
      exact tail r
    · simp only [↓reduceIte, gosem, hc, beq_false_of_ne hc, Bool.and_false]
      exact tail (c :: r)

theorem tagDecoder_find (b c : Byte) (rest : Bytes) :
    Fn.tagDecoder.find? (fun p => p.1.isPrefixOf (b :: c :: rest)) =
      if b = 0x5C then (tagUnesc c).map (fun d => ([0x5C, c], [d])) else none := by
  by_cases hb : b = 0x5C
  · subst hb
    unfold tagUnesc
    by_cases h1 : c = 0x3A
    · subst h1; rfl
    by_cases h2 : c = 0x73
    · subst h2; rfl
    by_cases h3 : c = 0x5C
    · subst h3; rfl
    by_cases h4 : c = 0x72
    · subst h4; rfl
    by_cases h5 : c = 0x6E
    · subst h5; rfl
    simp only [List.find?, List.isPrefixOf, beq_false_of_ne (Ne.symm h1), beq_false_of_ne (Ne.symm h2),
      beq_false_of_ne (Ne.symm h3), beq_false_of_ne (Ne.symm h4), beq_false_of_ne (Ne.symm h5), Bool.and_false, Bool.false_and,
      if_neg h1, if_neg h2, if_neg h3, if_neg h4, if_neg h5, if_true, Option.map_none]
  · simp only [List.find?, List.isPrefixOf, beq_false_of_ne (Ne.symm hb), Bool.false_and, if_neg hb]

theorem replacer_tagDecoder_fuel : ∀ (n : Nat) (v : Bytes), v.length < n → replacerFuel Fn.tagDecoder n v = tagDecode v
  | 0, _, h => by omega
  | _ + 1, [], _ => rfl
  | n + 1, [b], _ => by
    have hf : Fn.tagDecoder.find? (fun p => p.1.isPrefixOf [b]) = none := by
      simp only [List.find?, List.isPrefixOf, Bool.and_false]
    rw [replacerFuel, hf]
    cases n <;> rfl
  | n + 1, b :: c :: rest, h => by
    have ih1 := replacer_tagDecoder_fuel n (c :: rest) (Nat.lt_of_succ_lt_succ h)
    have ih2 := replacer_tagDecoder_fuel n rest (Nat.lt_of_succ_lt (Nat.lt_of_succ_lt_succ h))
    rw [replacerFuel, tagDecoder_find, tagDecode]
    by_cases hb : b = 0x5C
    · subst hb
      cases tagUnesc c with
      | none => simp only [if_true, Option.map_none, ih1]
      | some d =>
        simp only [if_true, Option.map_some, List.length_cons, List.length_nil, List.drop_succ_cons, List.drop_zero,
          List.singleton_append, ih2]
    · simp only [hb, if_false, ih1]

theorem replacer_tagDecoder (v : Bytes) : replacer Fn.tagDecoder v = tagDecode v :=
  replacer_tagDecoder_fuel (v.length + 1) v (Nat.lt_succ_self _)

theorem Tags_Get_eq (t : Option Tags) (key : Bytes) :
    Fn.Tags_Get t key = .ok (match tagsGet t key with
                             | some v => (v, true)
                             | none => ([], false)) := by
  cases t with
  | none => rfl
  | some m =>
    simp only [Fn.Tags_Get, tagsGet, gosem, Option.isNone_some, mapHas, mapGet, AMap.contains, replacer_tagDecoder]
    cases AMap.get? m key <;> rfl

theorem Tags_Bytes_loop1_eq (ks names : List Bytes) :
    Fn.Tags_Bytes_loop1 (ks.length + 1) ks names = .ok (.done (names ++ ks)) :=
  (forRange_append Fn.Tags_Bytes_loop1 id (fun _ _ => rfl) (fun _ _ _ _ => rfl) _ ks names (Nat.lt_succ_self _)).trans
    (by rw [List.map_id])

/-- What the caller of the writing loop does with its result: both exits return the buffer. -/
def tbOut : LoopR (Bytes × Int) Bytes → Bytes
  | .ret b => b
  | .done (b, _) => b

/-- One pass of the writing loop: `item` is what it appends unless the length test `P` stops it. -/
theorem tb_step {P Q : Prop} [Decidable P] [Decidable Q] (hpq : P ↔ Q) {X : Except Fault (LoopR (Bytes × Int) Bytes)}
    {B B' item : Bytes} {rest : Nat → Bytes} (hB : B' = B ++ item) (h : X.map tbOut = .ok (B' ++ rest B'.length)) :
    (if decide P = true then .ok (.ret B) else X).map tbOut =
      .ok (B ++ if Q then [] else item ++ rest (B.length + item.length)) := by
  by_cases hp : P
  · rw [if_pos (decide_eq_true hp), if_pos (hpq.mp hp), List.append_nil]; rfl
  · rw [if_neg (by rw [decide_eq_false hp]; exact Bool.false_ne_true), if_neg (mt hpq.mpr hp), h, hB, List.append_assoc,
      List.length_append]

theorem Tags_Bytes_loop2_eq (m : Tags) (names : List Bytes) (B : Bytes) :
    (Fn.Tags_Bytes_loop2 (some m) (names.length : Int) names (fuelTo 0 (len names)) B 0 0).map tbOut =
      .ok (B ++ tagsBytesLoop m names B.length) :=
  forIdx_len names (fun fuel B i => (Fn.Tags_Bytes_loop2 (some m) (names.length : Int) names fuel B i i).map tbOut)
    (fun n B => B ++ tagsBytesLoop m (names.drop n) B.length)
    (fun fuel B => by
      simp only [↓reduceIte, gosem, Fn.Tags_Bytes_loop2, Except.map, tbOut, List.drop_length, tagsBytesLoop, List.append_nil])
    (fun fuel n B x hn hx ih => by
      rw [drop_cons_of_getElem? hx, tagsBytesLoop]
      simp only [↓reduceIte, gosem, Fn.Tags_Bytes_loop2, decide_lt_len hn, atL_ofNat hx, decide_len_pos, decide_lt_pred_len,
        show (AMap.get? m x).getD [] = mapGet (some m) x from rfl]
      by_cases hv : (mapGet (some m) x).length > 0 <;> cases (names.drop (n + 1)).isEmpty
      all_goals
        simp only [↓reduceIte, gosem, hv, decide_true, decide_false, Bool.not_true, Bool.not_false]
        refine tb_step (rest := tagsBytesLoop m _) ?_ ?_ (ih _)
        · simp only [len, Fn.maxTagLength, maxTagLength]; omega
        · simp only [List.append_assoc, List.append_nil, List.cons_append, List.nil_append])
    0 B (Nat.zero_le _)

theorem Tags_Bytes_eq (t : Option Tags) : Fn.Tags_Bytes t = .ok (tagsBytes t) := by
  cases t with
  | none => rfl
  | some m =>
    cases m with
    | nil => rfl
    | cons p ps =>
      have hne : (mapLen (some (p :: ps)) == 0) = false :=
        beq_false_of_ne (show ((ps.length + 1 : Nat) : Int) ≠ 0 by omega)
      have hlen : mapLen (some (p :: ps)) = ((sortBytes (AMap.keys (p :: ps))).length : Int) := by
        rw [InvBase.length_sortBytes, AMap.keys, List.length_map]; rfl
      obtain ⟨r, hr, ho⟩ := map_eq_ok (Tags_Bytes_loop2_eq (p :: ps) (sortBytes (AMap.keys (p :: ps))) [0x40])
      rw [Fn.Tags_Bytes]
      simp only [↓reduceIte, gosem, Option.isNone_some, hne]
      simp only [gosem, mapKeys, Tags_Bytes_loop1_eq, sortStrings, List.nil_append, hlen, hr]
      cases r <;> exact congrArg Except.ok ho

/-! `for tagName := range t` visits the keys in an order Go does not specify.  The translation visits them in the order
of the association list that represents the map, and `Tags_Bytes_eq` holds for EVERY list.  Two lists that are
permutations of each other (with unique keys) represent the same Go map; the result is the same for both, because
the keys are sorted before they are used. -/

theorem tagsBytesLoop_congr (t t' : Tags) (h : ∀ k, AMap.get? t k = AMap.get? t' k) :
    ∀ (ks : List Bytes) (cur : Nat), tagsBytesLoop t ks cur = tagsBytesLoop t' ks cur
  | [], _ => rfl
  | k :: ks, cur => by
    unfold tagsBytesLoop
    simp only [h k, tagsBytesLoop_congr t t' h ks]

theorem tagsBytes_perm {t t' : Tags} (h : t.Perm t') (hnd : (AMap.keys t).Nodup) :
    tagsBytes (some t) = tagsBytes (some t') := by
  have hk : (AMap.keys t).Perm (AMap.keys t') := List.Perm.map (fun p : Bytes × Bytes => p.1) h
  have hnd' : (AMap.keys t').Nodup := hk.nodup_iff.mp hnd
  have hs : sortBytes (AMap.keys t) = sortBytes (AMap.keys t') := by
    apply InvBase.sortedStrict_ext (InvBase.sortedStrict_sortBytes hnd) (InvBase.sortedStrict_sortBytes hnd')
    intro x
    rw [InvBase.mem_sortBytes, InvBase.mem_sortBytes]
    exact hk.mem_iff
  have he : t.isEmpty = t'.isEmpty := by
    cases t <;> cases t' <;> simp_all
  unfold tagsBytes
  simp only [he, hs]
  rw [tagsBytesLoop_congr t t' (fun k => lookup_perm h hnd k)]

theorem Tags_Len_eq (t : Option Tags) : Fn.Tags_Len t = .ok (tagsLen t : Int) := by
  cases t with
  | none => rfl
  | some m => simp only [Fn.Tags_Len, gosem, Option.isNone_some, Tags_Bytes_eq, tagsLen, len]

/-- `Tags.writeTo(w)` on a `*bytes.Buffer`: the bytes written are `tagsWrite t`, `n` is their number, `err` is nil. -/
theorem Tags_writeTo_eq (t : Option Tags) (w : Bytes) :
    Fn.Tags_writeTo t w = .ok (((tagsWrite t).length : Int), none, w ++ tagsWrite t) := by
  unfold Fn.Tags_writeTo tagsWrite
  simp only [gosem, Tags_Bytes_eq]
  cases h : tagsBytes t with
  | nil => simp only [↓reduceIte, gosem, show (len ([] : Bytes) == 0) = true from rfl, List.isEmpty_nil, List.length_nil, List.append_nil, Int.natCast_zero]
  | cons b bs =>
    have hne : (((b :: bs).length : Int) == 0) = false := beq_false_of_ne (show ((bs.length + 1 : Nat) : Int) ≠ 0 by omega)
    simp only [↓reduceIte, gosem, hne, Option.isSome_none, List.isEmpty_cons, show Fn.eventSpace = SP from rfl, len, List.length_append,
      List.length_singleton, Int.natCast_add, Int.natCast_one, List.append_assoc]

theorem replacerFuel_tagEncoder_cons (n : Nat) (b : Byte) (rest : Bytes) :
    replacerFuel Fn.tagEncoder (n + 1) (b :: rest) = tagEnc1 b ++ replacerFuel Fn.tagEncoder n rest := by
  by_cases h1 : b = 0x3B
  · subst h1; rfl
  by_cases h2 : b = 0x20
  · subst h2; rfl
  by_cases h3 : b = 0x5C
  · subst h3; rfl
  by_cases h4 : b = 0x0D
  · subst h4; rfl
  by_cases h5 : b = 0x0A
  · subst h5; rfl
  simp only [replacerFuel, List.find?, List.isPrefixOf, beq_false_of_ne (Ne.symm h1), beq_false_of_ne (Ne.symm h2),
    beq_false_of_ne (Ne.symm h3), beq_false_of_ne (Ne.symm h4), beq_false_of_ne (Ne.symm h5), Bool.false_and, tagEnc1,
    if_neg h1, if_neg h2, if_neg h3, if_neg h4, if_neg h5, List.singleton_append]

theorem replacer_tagEncoder_fuel : ∀ (n : Nat) (v : Bytes), v.length < n → replacerFuel Fn.tagEncoder n v = tagEncode v
  | 0, _, h => by omega
  | _ + 1, [], _ => rfl
  | n + 1, b :: rest, h => by
    rw [replacerFuel_tagEncoder_cons, replacer_tagEncoder_fuel n rest (Nat.lt_of_succ_lt_succ h), tagEncode, tagEncode,
      List.flatMap_cons]

theorem replacer_tagEncoder (v : Bytes) : replacer Fn.tagEncoder v = tagEncode v :=
  replacer_tagEncoder_fuel (v.length + 1) v (Nat.lt_succ_self _)

theorem Tags_Set_eq (t : Option Tags) (key value : Bytes) :
    Fn.Tags_Set t key value = .ok (match tagsSet (t.getD []) key value with
                                   | some m' => (none, t.map fun _ => m')
                                   | none => (some GoErr.mk, t)) := by
  have hlen (m : Tags) : decide ((tagsLen (some m) : Int) + len key + len (tagEncode value) + 2 > Fn.maxTagLength) =
      decide (tagsLen (some m) + key.length + (tagEncode value).length + 2 > maxTagLength) :=
    decide_congr (by simp only [len, Fn.maxTagLength, maxTagLength]; omega)
  unfold Fn.Tags_Set tagsSet
  simp only [↓reduceIte, gosem, validTag_eq, validTagValue_eq, replacer_tagEncoder, decide_len_pos]
  cases validTag key
  · cases t <;> rfl
  cases decide ((tagEncode value).length > 0) && !validTagValue (tagEncode value)
  · cases t
    all_goals
      simp only [↓reduceIte, gosem, Option.isNone_some, Option.isNone_none, Tags_Len_eq, mapSet_some, Option.getD_some, Option.getD_none,
        Bool.not_true]
      simp only [hlen, decide_eq_true_eq]
      split <;> rfl
  · cases t <;> rfl

theorem Tags_Count_eq (t : Option Tags) : Fn.Tags_Count t = .ok (tagsCount t) := by
  cases t <;> rfl

theorem tagsCount_nonneg (t : Option Tags) : 0 ≤ tagsCount t := by
  cases t with
  | none => exact Int.le_refl 0
  | some m => exact Int.natCast_nonneg _

/-- `Tags.Keys()`: the keys, in the order in which the `range` statement visits the map (= the order of the association
    list that represents it). -/
theorem Tags_Keys_eq (t : Option Tags) : Fn.Tags_Keys t = .ok (mapKeys t) := by
  have hc : makeCapA ([] : Bytes) 0 (tagsCount t) = .ok [] := by
    unfold makeCapA
    rw [if_pos ⟨Int.le_refl 0, tagsCount_nonneg t⟩]
    rfl
  have hl := forRange_append Fn.Tags_Keys_loop1 id (fun _ _ => rfl) (fun _ _ _ _ => rfl) _ (mapKeys t) []
    (Nat.lt_succ_self _)
  simp only [gosem, Fn.Tags_Keys, Tags_Count_eq, hc, hl, List.nil_append, List.map_id]

/-- Go's map order is unspecified: two representations of the same map (permutations of each other) give key lists
    that are permutations of each other. -/
theorem mapKeys_perm (m m' : Tags) (h : List.Perm m m') : List.Perm (mapKeys (some m)) (mapKeys (some m')) := by
  unfold mapKeys AMap.keys
  exact h.map _

theorem Tags_Keys_perm (m m' : Tags) (h : List.Perm m m') :
    ∃ ks ks', Fn.Tags_Keys (some m) = .ok ks ∧ Fn.Tags_Keys (some m') = .ok ks' ∧ List.Perm ks ks' :=
  ⟨_, _, Tags_Keys_eq _, Tags_Keys_eq _, mapKeys_perm m m' h⟩

theorem Tags_Get_fst (t : Option Tags) (key : Bytes) :
    (match tagsGet t key with
     | some v => (v, true)
     | none => (([] : Bytes), false)).1 = (tagsGet t key).getD [] := by
  cases tagsGet t key <;> rfl

theorem Tags_Equals_eq (t tt : Option Tags) : Fn.Tags_Equals t tt = .ok (tagsEquals t tt) := by
  unfold Fn.Tags_Equals tagsEquals accountOf ACCOUNT_TAG
  simp only [gosem, Tags_Get_eq]
  cases tagsGet t [0x61, 0x63, 0x63, 0x6F, 0x75, 0x6E, 0x74] <;>
    cases tagsGet tt [0x61, 0x63, 0x63, 0x6F, 0x75, 0x6E, 0x74] <;>
    simp only [Option.getD_none, Option.getD_some, Bool.beq_eq_decide_eq]

theorem Tags_Remove_eq (t : Option Tags) (key : Bytes) : Fn.Tags_Remove t key = .ok (tagsRemove t key) := by
  cases t with
  | none => rfl
  | some m =>
    simp only [gosem, Fn.Tags_Remove, tagsRemove, Option.isNone_some, mapHas, mapDelete]
    by_cases h : AMap.contains m key = true <;> simp only [gosem, h]

/-- The same in the run-time's own vocabulary: Go's `delete` is a no-op on a missing key, so the guard
    `if success` makes no difference. -/
theorem Tags_Remove_eq' (t : Option Tags) (key : Bytes) : Fn.Tags_Remove t key = .ok (mapHas t key, mapDelete t key) := by
  rw [Tags_Remove_eq]
  cases t with
  | none => rfl
  | some m =>
    simp only [tagsRemove, mapHas, mapDelete]
    cases h : AMap.contains m key with
    | true => rfl
    | false =>
      rw [InvBase.erase_of_not_mem_keys ((InvBase.contains_eq_false_iff_not_mem m key).mp h)]
      rfl

end Girc.Proofs.Trans
