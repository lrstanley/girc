import Girc.Proofs.SimCor
import Girc.Proofs.SimWire
/- C04 — tracked state equals what a conformant server's message history implies. Property theorems only. -/
namespace Girc.Props.C04
open Girc Girc.Model Girc.Spec

/-- The property: after ANY conformant history (any length, any mix of JOIN, PART, KICK, QUIT, NICK,
    NAMES, WHO/WHOX, MODE, TOPIC, AWAY, ACCOUNT, CHGHOST, account tags, 001/004/005/MOTD and anything
    else a server sends), the implementation model returns without a fault and everything the state
    API shows (`observe`: own nick/ident/host, channel list, user list, per-channel membership,
    per-user channel list and privilege flags, topic, mode string with arguments, account/away/
    realname, server options, MOTD, maximum event length) equals the observation of the reference
    tracker, which keeps one membership relation and forgets users exactly when they share no
    tracked channel. -/
theorem refinement (cfg : Cfg) (hT : cfg.disableTracking = false) (es : List Event)
    (hc : conformantHistory cfg {} es = true) :
    ∃ cs, runEvents cfg {} es = .ok cs ∧ observe cs.st = (Ref.run cfg es).observe :=
  Proofs.SimMain.refinement cfg hT es hc

/-- The same at the WIRE level: the received lines are parsed by the parser of C02, handled one at a
    time, locally injected events (only ever local ERRORs) are processed after the event that injected
    them; for every history of lines that parse to a conformant history of events, as long as nothing
    has ended the connection (no ERROR, no unparsable line, no requested close) what the state API
    shows equals the reference model's observation. -/
theorem refinement_wire (cfg : Cfg) (hT : cfg.disableTracking = false) (lines : List Bytes) (es : List Event)
    (hp : lines.map parseEvent = es.map some) (hc : conformantHistory cfg {} es = true)
    (r : Run) (hr : runLines cfg {} lines = .ok r) (hrun : r.ended = .running) :
    observe r.cs.st = (Ref.run cfg es).observe :=
  Proofs.SimBase.observe_eq (Proofs.SimWire.runLines_sim cfg hT lines es {} {} hp Proofs.SimBase.sim_init hc r hr hrun)

/-- One step, from any related pair of states (the inductive core; `Sim` is extensional equality of
    everything tracked, stated in Spec/Sim.lean). -/
theorem step (cfg : Cfg) (hT : cfg.disableTracking = false) (cs : CState) (r : Ref) (e : Event) (time idle : Bytes)
    (h : Sim cs.st r) (hc : r.conformant cfg e = true) :
    ∃ cs' outs, handleEvent cfg cs e time idle = .ok (cs', outs) ∧ Sim cs'.st (r.step cfg e) :=
  Proofs.SimMain.sim_handleEvent cfg hT e time idle h hc

theorem observe_eq (st : St) (r : Ref) (h : Sim st r) : observe st = r.observe := Proofs.SimBase.observe_eq h

/-- Users are forgotten exactly when they share no tracked channel. -/
theorem known_iff_shares (st : St) (r : Ref) (h : Sim st r) (n : Bytes) :
    AMap.contains r.users n = true ↔ ∃ c, (c, n) ∈ r.members := by
  open Proofs.InvBase Proofs.SimAMap in
  constructor
  · intro hn
    obtain ⟨u, hu⟩ := get?_of_known h.users hn
    have hne := h.inv.userHasChan n u (get?_some_mem hu)
    cases hc : u.chans with
    | nil => exact absurd hc hne
    | cons k ks =>
      exact ⟨k, (h.mem_user_chans hu k).mp (by rw [hc]; exact List.mem_cons_self ..)⟩
  · rintro ⟨c, hc⟩
    exact (h.membersKnown c n hc).2

theorem lookupUser_iff_shares (st : St) (r : Ref) (h : Sim st r) (n : Bytes) :
    (AMap.get? st.users n).isSome = true ↔ ∃ k ch, AMap.get? st.channels k = some ch ∧ n ∈ ch.users := by
  open Proofs.InvBase in
  constructor
  · intro hn
    obtain ⟨u, hu⟩ := Option.isSome_iff_exists.mp hn
    have hmu : (n, u) ∈ st.users := get?_some_mem hu
    have hne := h.inv.userHasChan n u hmu
    cases hc : u.chans with
    | nil => exact absurd hc hne
    | cons k ks =>
      obtain ⟨ch, hch, hnu⟩ := h.inv.userToChan n u hmu k (by rw [hc]; exact List.mem_cons_self ..)
      exact ⟨k, ch, mem_get? h.inv.chanKeys hch, hnu⟩
  · rintro ⟨k, ch, hch, hn⟩
    obtain ⟨u, hu, _⟩ := h.inv.chanToUser k ch (get?_some_mem hch) n hn
    rw [mem_get? h.inv.userKeys hu]
    rfl

open Proofs.SimCor in
/-- "A channel mode set by '+x' is reported until a later '-x', and mode arguments follow the server's
    CHANMODES classes" — the reference model's per-flag rule, which by `refinement` is what the state
    API reports. -/
theorem mode_rules (ch : RChan) (f : Byte) (args : List Bytes) :
    -- '+x' for a setting is reported, with the argument its class prescribes
    (isListMode ch f = false ∧ isPrivMode ch f = false →
      (f, if isPlainMode ch f then [] else args.headD []) ∈ (Ref.modeFlag ch true f args).1) ∧
    -- until a '-x'
    (isListMode ch f = false ∧ isPrivMode ch f = false → ∀ a, (f, a) ∉ (Ref.modeFlag ch false f args).1) ∧
    -- flags for other letters leave it alone
    (∀ (add : Bool) (g : Byte) (a : Bytes), g ≠ f → (f, a) ∈ ch.modes → (f, a) ∈ (Ref.modeFlag ch add g args).1) ∧
    -- arguments are consumed by class: A, B and privilege modes always, C only when set, D never
    (∀ add : Bool, (Ref.modeFlag ch add f args).2.1 =
      if isListMode ch f || isArgMode ch f || isPrivMode ch f || (isSetArgMode ch f && add) then args.tail else args) ∧
    -- list modes and privilege modes are not settings
    (isListMode ch f = true ∨ isPrivMode ch f = true → ∀ add : Bool, (Ref.modeFlag ch add f args).1 = ch.modes) :=
  open Proofs.SimMode in by
  refine ⟨fun hs => ?_, fun hs a => ?_, fun add g a hfg hm => ?_, fun add => ?_, fun hs add => ?_⟩
  · obtain ⟨h1, h2, h3, h4⟩ := modeBits_cls ch f
    unfold isPlainMode
    rw [modeFlag_cls, h2, h3]
    rw [h1, h4] at hs ⊢
    generalize rcls ch f = c at hs ⊢
    cases c
    · cases hs.1
    · exact takeArg_fst args ▸ mem_rset f ch.modes _
    · exact takeArg_fst args ▸ mem_rset f ch.modes _
    · cases hs.2
    · exact mem_rset f ch.modes []
  · obtain ⟨h1, _, _, h4⟩ := modeBits_cls ch f
    rw [modeFlag_cls]
    rw [h1, h4] at hs
    generalize rcls ch f = c at hs ⊢
    cases c
    · cases hs.1
    · exact not_mem_runset f ch.modes a
    · exact not_mem_runset f ch.modes a
    · cases hs.2
    · exact not_mem_runset f ch.modes a
  · rw [modeFlag_cls]
    cases rcls ch g
    · exact hm
    · cases add
      · exact mem_runset_other hfg hm
      · exact mem_rset_other hfg _ hm
    · cases add
      · exact mem_runset_other hfg hm
      · exact mem_rset_other hfg _ hm
    · exact hm
    · cases add
      · exact mem_runset_other hfg hm
      · exact mem_rset_other hfg _ hm
  · obtain ⟨h1, h2, h3, h4⟩ := modeBits_cls ch f
    rw [modeFlag_cls, h1, h2, h3, h4]
    cases rcls ch f
    · exact takeArg_snd args
    · exact takeArg_snd args
    · cases add
      · rfl
      · exact takeArg_snd args
    · exact takeArg_snd args
    · rfl
  · obtain ⟨h1, _, _, h4⟩ := modeBits_cls ch f
    rw [modeFlag_cls]
    rw [h1, h4] at hs
    generalize rcls ch f = c at hs ⊢
    cases c
    · rfl
    · rcases hs with hs | hs <;> cases hs
    · rcases hs with hs | hs <;> cases hs
    · rfl
    · rcases hs with hs | hs <;> cases hs

/-! ### non-vacuity: a concrete conformant history with a non-trivial outcome -/

def ev (src : Option Source) (cmd : Bytes) (ps : List Bytes) : Event := { source := src, command := cmd, params := ps }
def b (s : String) : Bytes := s.toUTF8.toList
def demoCfg : Cfg := { nick := b "me", user := b "me" }
def demo : List Event :=
  [ ev (some ⟨b "srv", [], []⟩) c001 [b "me", b "Welcome"],
    ev (some ⟨b "me", b "u", b "h"⟩) cJOIN [b "#Chan"],
    ev (some ⟨b "srv", [], []⟩) c353 [b "me", b "=", b "#chan", b "me @Bob"],
    ev (some ⟨b "Bob", b "b", b "h"⟩) cMODE [b "#CHAN", b "+mk-o", b "key", b "bob"],
    ev (some ⟨b "Bob", b "b", b "h"⟩) cNICK [b "BOB"],
    ev (some ⟨b "BOB", b "b", b "h"⟩) cPART [b "#chan"] ]

example : demoCfg.disableTracking = false := rfl
example : conformantHistory demoCfg {} demo = true := by decide +kernel
example : ((Ref.run demoCfg demo).observe.channels.map fun c => (c.1, c.2.users, c.2.modes)) =
    [(b "#chan", [b "me"], b "+mk key")] := by decide +kernel
example : (Ref.run demoCfg demo).observe.users.map (·.1) = [b "me"] := by decide +kernel

end Girc.Props.C04
