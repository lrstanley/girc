import Girc.Proofs.Pure
import Girc.Proofs.ProtocolA
import Girc.Gen.Facts
/- C09 — SASL delivers the exact credential (pure part: chunking, PLAIN, base64). Property theorems only. -/
namespace Girc.Props.C09
open Girc Girc.Model Girc.Spec Girc.Proofs.Pure Girc.Proofs.ProtocolA

theorem gen_chunk_size : Gen.const_saslChunkSize = 400 := by decide

/-- Tie for the logging clause: in the source as it is now, EVERY `Event{…}` literal whose command is PASS,
    WEBIRC or OPER, and every AUTHENTICATE literal whose parameters carry the mechanism response (`auth…`),
    sets `Sensitive: true` — these are the events `no_secret_logged` is about. -/
def credentialBearing (l : List UInt8 × List UInt8 × Bool) : Bool :=
  l.1 = [0x50, 0x41, 0x53, 0x53] || l.1 = [0x57, 0x45, 0x42, 0x49, 0x52, 0x43] || l.1 = [0x4F, 0x50, 0x45, 0x52] ||
  (l.1 = [0x41, 0x55, 0x54, 0x48, 0x45, 0x4E, 0x54, 0x49, 0x43, 0x41, 0x54, 0x45] && (findSub [0x61, 0x75, 0x74, 0x68] l.2.1).isSome)
theorem gen_credentials_sensitive : Gen.eventLiterals.all (fun l => !credentialBearing l || l.2.2) = true := by decide
theorem gen_credentials_present : (Gen.eventLiterals.filter credentialBearing).length = 5 := by decide

/-- base64 loses nothing: the RFC 4648 decoder recovers every input from the encoder's output. -/
theorem b64_roundtrip (x : Bytes) : b64Decode (b64Encode x) = some x := Proofs.PureAux.b64_roundtrip x

/-- PLAIN: the response to "+" is base64(user NUL user NUL password), for arbitrary bytes. -/
theorem plain_exact (u p : Bytes) :
    saslPlainEncode u p [PLUS] = b64Encode (u ++ [0x00] ++ u ++ [0x00] ++ p) ∧
    b64Decode (saslPlainEncode u p [PLUS]) = some (u ++ [0x00] ++ u ++ [0x00] ++ p) := by
  constructor
  · simp [saslPlainEncode]
  · simp [saslPlainEncode, b64_roundtrip]

/-- A mechanism that is not invited with "+" gives up (empty response). -/
theorem plain_gives_up (u p : Bytes) (ps : List Bytes) (h : ps ≠ [PLUS]) : saslPlainEncode u p ps = [] := by
  simp [saslPlainEncode, h]

/-- Chunks of at most 400 bytes whose concatenation is exactly the response; a lone "+" follows
    exactly when the last chunk is 400 bytes — for responses of EVERY length. -/
theorem chunks_exact (auth : Bytes) (hne : auth ≠ []) :
    (payloads auth).flatten = auth ∧
    (∀ c ∈ payloads auth, 1 ≤ c.length ∧ c.length ≤ 400) ∧
    (∀ c ∈ (payloads auth).dropLast, c.length = 400) ∧
    (auth.length % 400 = 0 → (saslChunks auth).getLast? = some PLUS ∧ ((payloads auth).getLast?.map List.length) = some 400) ∧
    (auth.length % 400 ≠ 0 → ((saslChunks auth).getLast?.map List.length) = some (auth.length % 400)) :=
  Proofs.Pure.chunks_exact auth hne

/-- The repaired defect (399-byte chunks) on a small instance of the same loop shape is covered by
    `chunks_exact`; concrete witnesses are replayed against the implementation by the harness. -/
example : saslChunks [0x41] = [[0x41]] := by decide

/-! ### Protocol part -/

/-- Once authentication is in progress, CAP END is written only for the success numeric. -/
theorem sasl_end_only_on_success (cfg : Cfg) (cs : CState) (e : Event) (m : SaslCfg) (cs' : CState) (outs : List Out)
    (hs : cfg.sasl = some m) (hc : isSaslCmd e.command = true)
    (h : handleCommand cfg cs e = .ok (cs', outs)) (hend : Out.write capEnd ∈ outs) : e.command = c903 :=
  Proofs.ProtocolA.sasl_end_only_on_success cfg cs e m cs' outs hs hc h hend

/-- Any SASL failure numeric injects a local ERROR and writes nothing. -/
theorem sasl_failure_injects_error (cfg : Cfg) (cs : CState) (e : Event) (m : SaslCfg)
    (hs : cfg.sasl = some m) (ht : cfg.disableTracking = false)
    (hc : e.command = c902 ∨ e.command = c904 ∨ e.command = c905 ∨ e.command = c906 ∨ e.command = c908) :
    handleCommand cfg cs e = .ok (cs, [Out.inject (errorEvent (sClosing ++ e.last))]) :=
  Proofs.ProtocolA.sasl_failure_injects_error cfg cs e m hs ht hc

/-- A mechanism that gives up (empty response) injects a local ERROR and writes nothing. -/
theorem sasl_giveup_injects_error (cfg : Cfg) (cs : CState) (e : Event) (m : SaslCfg)
    (hs : cfg.sasl = some m) (ht : cfg.disableTracking = false) (hc : e.command = cAUTHENTICATE)
    (hg : m.encode cs.saslCalls e.params = []) :
    ∃ cs', handleCommand cfg cs e = .ok (cs', [Out.inject (errorEvent (sClosingSasl ++ m.method ++ sFailed ++ e.last))]) := by
  rw [handleCommand_auth cfg cs e ht hc, handleSASL_auth cfg cs e m hs hc, hg]
  exact ⟨_, rfl⟩

/-- Otherwise the response goes out as the chunk sequence of `saslChunks` (see `chunks_exact`). -/
theorem sasl_response_chunked (cfg : Cfg) (cs : CState) (e : Event) (m : SaslCfg)
    (hs : cfg.sasl = some m) (ht : cfg.disableTracking = false) (hc : e.command = cAUTHENTICATE)
    (hg : m.encode cs.saslCalls e.params ≠ []) :
    ∃ cs', handleCommand cfg cs e = .ok (cs',
      (saslChunks (m.encode cs.saslCalls e.params)).map fun c => Out.write { command := cAUTHENTICATE, params := [c] }) := by
  rw [handleCommand_auth cfg cs e ht hc, handleSASL_auth cfg cs e m hs hc,
    if_neg (by rwa [List.isEmpty_iff])]
  exact ⟨_, rfl⟩

/-- The injected ERROR ends the connection with `ErrEvent` carrying its text: a failure line makes
    `Connect` return an error instead of registering unauthenticated. -/
theorem sasl_failure_ends_connection (cfg : Cfg) (r : Run) (line : Bytes) (e : Event) (m : SaslCfg)
    (hr : r.ended = .running) (hp : parseEvent line = some e)
    (hs : cfg.sasl = some m) (ht : cfg.disableTracking = false)
    (hc : e.command = c902 ∨ e.command = c904 ∨ e.command = c905 ∨ e.command = c906 ∨ e.command = c908) :
    ∃ r', stepLine cfg r line = .ok r' ∧ r'.ended = .errEvent (sClosing ++ e.last) ∧ r'.written = r.written :=
  Proofs.ProtocolA.sasl_failure_ends_connection cfg r line e m hr hp hs ht hc

/-- Non-interference of the logs in the secret: for a sensitive event nothing derived from the
    parameters reaches either writer, on the normal and on the dropped-event path. -/
theorem no_secret_logged (e : Event) (ps : List Bytes) (dropped echo : Bool) :
    debugLine true dropped e = debugLine true dropped { e with params := ps } ∧
    outLine true echo e = none :=
  Proofs.ProtocolA.no_secret_logged e ps dropped echo

end Girc.Props.C09
