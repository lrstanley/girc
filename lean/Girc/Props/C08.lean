import Girc.Proofs.ProtocolB
import Girc.Gen.Facts
/- C08 — capability negotiation is safe, complete and always concludes. Property theorems only. -/
namespace Girc.Props.C08
open Girc Girc.Model Girc.Spec Girc.Proofs.ProtocolB

/-- Tie: the built-in capability table regenerated from cap.go is the model's. -/
theorem gen_builtin_caps : Gen.map_possibleCap = builtinCaps := by decide

/-- What the client could ever request: the built-ins, the configured extras, sasl iff SASL is
    configured, sts iff STS is enabled on a plaintext configuration (and did not just fail). -/
theorem possible_exact (cfg : Cfg) (k : Bytes) :
    AMap.contains (possibleCaps cfg) k = true ↔
      (k ∈ builtinCaps ∨ k ∈ AMap.keys cfg.supportedCaps ∨ (k = sSasl ∧ cfg.sasl.isSome) ∨
       (k = sSts ∧ cfg.disableSTS = false ∧ cfg.ssl = false ∧ ¬(cfg.stsRecentlyFailed = true ∧ cfg.disableSTSFallback = false))) :=
  Proofs.ProtocolB.possible_exact cfg k

theorem capinv_step (cfg : Cfg) (adv : List Bytes) (st : St) (e : Event) (h : CapInv cfg adv st) :
    CapInv cfg (adv ++ advertisedBy e) (handleCAP cfg st e).1 :=
  Proofs.ProtocolB.capinv_step cfg adv st e h

/-- Every CAP REQ the client writes lists exactly the pending capabilities (after this event). -/
theorem req_is_pending (cfg : Cfg) (st : St) (e : Event) (x : Bytes) :
    Out.write { command := cCAP, params := [cREQ, x] } ∈ (handleCAP cfg st e).2 →
      x = joinWith [SP] (sortBytes (AMap.keys (handleCAP cfg st e).1.tmpCap)) ∧ (handleCAP cfg st e).1.tmpCap ≠ [] :=
  Proofs.ProtocolB.req_is_pending cfg st e x

/-- A continuation line (`CAP * LS * :caps`, 4 parameters) produces no output. -/
theorem ls_continuation_silent (cfg : Cfg) (st : St) (e : Event) (a b c d : Bytes)
    (hp : e.params = [a, b, c, d]) (hls : b = cLS ∨ b = cNEW) : (handleCAP cfg st e).2 = [] := by
  obtain ⟨h1, h2, h3, h4⟩ := Proofs.ProtocolBAux.flags_of_params e a b [c, d] hp
  rw [Proofs.ProtocolBAux.handleCAP_eq, h1, h2, h3]
  rcases hls with h | h <;> subst h <;> simp +decide [hp]

/-- The final LS line concludes the round with exactly one REQ or exactly one END. -/
theorem ls_final_concludes (cfg : Cfg) (st : St) (e : Event) (a b c : Bytes)
    (hp : e.params = [a, b, c]) (hls : b = cLS ∨ b = cNEW) :
    (handleCAP cfg st e).2 = [Out.write capEnd] ∨
    ∃ x, (handleCAP cfg st e).2 = [Out.write { command := cCAP, params := [cREQ, x] }] := by
  obtain ⟨h1, h2, h3, h4⟩ := Proofs.ProtocolBAux.flags_of_params e a b [c] hp
  have hlen : e.params.length = 3 := by rw [hp]; rfl
  have hd : Proofs.ProtocolBAux.isDel e = false := by rw [h1]; rcases hls with h | h <;> subst h <;> simp +decide
  have hn : Proofs.ProtocolBAux.isNak e = false := by rw [h2]; rcases hls with h | h <;> subst h <;> simp +decide
  have hl : Proofs.ProtocolBAux.isLs e = true := by rw [h3]; rcases hls with h | h <;> subst h <;> simp +decide
  rw [Proofs.ProtocolBAux.handleCAP_eq, hd, hn, hl]
  simp only [Bool.false_eq_true, ↓reduceIte, hlen]
  by_cases he : (capCollect (possibleCaps cfg) st.tmpCap (parseCap e.last)).isEmpty = true
  · left; simp only [he, ↓reduceIte]
  · right; simp only [he, Bool.false_eq_true, ↓reduceIte]; exact ⟨_, rfl⟩

theorem nak_concludes (cfg : Cfg) (st : St) (e : Event) (a b : Bytes) (rest : List Bytes)
    (hp : e.params = a :: b :: rest) (hn : b = cNAK) : (handleCAP cfg st e).2 = [Out.write capEnd] := by
  obtain ⟨h1, h2, h3, h4⟩ := Proofs.ProtocolBAux.flags_of_params e a b rest hp
  subst hn
  have hd : Proofs.ProtocolBAux.isDel e = false := by rw [h1]; decide
  have hn : Proofs.ProtocolBAux.isNak e = true := by rw [h2]; decide
  rw [Proofs.ProtocolBAux.handleCAP_eq, hd, hn]
  simp

/-- An ACK yields exactly one of: CAP END, the start of authentication, an STS abort, an STS upgrade. -/
theorem ack_concludes (cfg : Cfg) (st : St) (e : Event) (a b c : Bytes)
    (hp : e.params = [a, b, c]) (hack : b = cACK) :
    (handleCAP cfg st e).2 = [Out.write capEnd] ∨
    (∃ m, cfg.sasl = some m ∧ (handleCAP cfg st e).2 = [Out.write { command := cAUTHENTICATE, params := [m.method] }]) ∨
    (handleCAP cfg st e).2 = [Out.inject { command := cERROR, params := [sStsInvalid] }] ∨
    (handleCAP cfg st e).2 = [Out.close] := by
  rw [handleCAP_ack3 cfg st e a b c hp hack]
  exact ackRes_out cfg st c

/-- The enabled set changes only by ACK (adds) and DEL (removes). -/
theorem enabled_transitions (cfg : Cfg) (st : St) (e : Event) :
    (handleCAP cfg st e).1.enabledCap =
      (if e.params.length ≥ 2 && e.params[1]? = some cDEL then
         (parseCap e.last).foldl (fun en p => AMap.erase en p.1) st.enabledCap
       else if e.params.length = 3 && e.params[1]? = some cACK then
         capAck st.tmpCap st.enabledCap (splitOnByte SP e.last)
       else st.enabledCap) := by
  have e1 : (decide (e.params.length ≥ 2) && decide (e.params[1]? = some cDEL)) = Proofs.ProtocolBAux.isDel e := rfl
  have e2 : (decide (e.params.length = 3) && decide (e.params[1]? = some cACK)) = Proofs.ProtocolBAux.isAck e := rfl
  rw [e1, e2, Proofs.ProtocolBAux.handleCAP_eq]
  cases hd : Proofs.ProtocolBAux.isDel e
  · cases hn : Proofs.ProtocolBAux.isNak e
    · cases hl : Proofs.ProtocolBAux.isLs e
      · cases ha : Proofs.ProtocolBAux.isAck e
        · simp
        · simp [ackRes_enabledCap]
      · simp [Proofs.ProtocolBAux.ls_not_ack e hl]
    · have : Proofs.ProtocolBAux.isAck e = false := by
        unfold Proofs.ProtocolBAux.isNak at hn; unfold Proofs.ProtocolBAux.isAck
        simp only [Bool.and_eq_true, decide_eq_true_eq] at hn
        simp [hn.2]; intro _; decide
      simp [this]
  · simp

/-- Tags reach the wire only while message-tags is enabled: without it the wire form of an event
    is byte for byte that of the same event without tags. -/
theorem tags_only_with_message_tags (st : St) (e : Event) (h : AMap.contains st.enabledCap sMessageTags = false) :
    wireEvent st e = eventBytes { e with tags := none } :=
  Proofs.ProtocolB.tags_only_with_message_tags st e h

/-- … and with it enabled the event is written as it is. -/
theorem tags_kept_with_message_tags (st : St) (e : Event) (h : AMap.contains st.enabledCap sMessageTags = true) :
    wireEvent st e = eventBytes e := by
  unfold wireEvent
  simp [h]

/-- With tracking disabled no CAP line is ever written. -/
theorem tracking_disabled_no_cap (cfg : Cfg) (cs : CState) (e : Event) (time idle : Bytes) (cs' : CState) (outs : List Out)
    (hd : cfg.disableTracking = true) (h : handleEvent cfg cs e time idle = .ok (cs', outs)) :
    ∀ o ∈ outs, ∀ ev, (o = Out.write ev ∨ o = Out.send ev) → ev.command ≠ cCAP ∧ ev.command ≠ cAUTHENTICATE := by
  have hecho : isEcho cfg cs.st e = false := by unfold isEcho; simp [hd]
  unfold handleEvent at h
  simp only [hecho, hd, Bool.false_eq_true, ↓reduceIte] at h
  cases hc : handleCommand cfg cs e with
  | error f => rw [hc] at h; cases h
  | ok r =>
    obtain ⟨cs1, o1⟩ := r
    rw [hc] at h
    have h1 := okOut_handleCommand cfg cs e cs1 o1 hd hc
    injection h with h; injection h with _ h; subst h
    intro o ho
    rcases List.mem_append.mp ho with ho | ho
    · exact h1 o ho
    · split at ho
      · exact okOut_ctcpCall _ _ _ _ o ho
      · simp at ho

end Girc.Props.C08
