import Girc.Model.Names
import Girc.Spec.NameSpec
import Girc.Gen.Facts
import Girc.Model.State
/-
  C15 — validators match their grammar; identity is RFC 1459 case-insensitive.
  (The name-keyed lookups, over the state model, are at the end of this file.)
-/
namespace Girc.Props.C15
open Girc Girc.Model

/-! ### Byte classes: the Go conditions equal the documented ranges, for all 256 bytes. -/
theorem nickFirst_eq : ∀ b : Byte, Model.nickFirst b = Spec.nickFirst b := by decide +kernel
theorem nickRest_eq : ∀ b : Byte, Model.nickRest b = Spec.nickRest b := by decide +kernel
theorem userFirst_eq : ∀ b : Byte, Model.userFirst b = Spec.userFirst b := by decide +kernel
theorem userRest_eq : ∀ b : Byte, Model.userRest b = Spec.userRest b := by decide +kernel
theorem chanPrefix_eq : ∀ b : Byte, Model.chanPrefix b = Spec.chanPrefix b := by decide +kernel
theorem chanIdByte_eq : ∀ b : Byte, Model.chanIdByte b = Spec.isUpperOrDigit b := by decide +kernel
theorem chanBad_eq : ∀ b : Byte, Model.chanBad b = Spec.chanBad b := by decide +kernel
theorem fold1_eq : ∀ b : Byte, Model.fold1 b = Spec.fold1 b := by decide +kernel

/-! ### Tie to the source: the if-conditions regenerated from format.go on this run are
    the (negated) model classes, for all 256 bytes; the byte lists are the spec's sets. -/
theorem gen_nick_first : ∀ b : Byte, Gen.IsValidNick_bp0 b = !Model.nickFirst b := by decide +kernel
theorem gen_nick_rest : ∀ b : Byte, Gen.IsValidNick_bp1 b = !Model.nickRest b := by decide +kernel
theorem gen_nick_count : Gen.IsValidNick_bpCount = 2 := by decide
theorem gen_user_tilde : ∀ b : Byte, Gen.IsValidUser_bp0 b = (b == 0x7E) := by decide +kernel
theorem gen_user_first : ∀ b : Byte, Gen.IsValidUser_bp1 b = !Model.userFirst b := by decide +kernel
theorem gen_user_rest : ∀ b : Byte, Gen.IsValidUser_bp2 b = !Model.userRest b := by decide +kernel
theorem gen_user_count : Gen.IsValidUser_bpCount = 3 := by decide
theorem gen_chan_bang : ∀ b : Byte, Gen.IsValidChannel_bp0 b = (b == 0x21) := by decide +kernel
theorem gen_chan_id : ∀ b : Byte, Gen.IsValidChannel_bp1 b = !Model.chanIdByte b := by decide +kernel
theorem gen_chan_count : Gen.IsValidChannel_bpCount = 2 := by decide
theorem gen_chan_prefixes : ∀ b : Byte, Gen.IsValidChannel_bytes0.contains b = Model.chanPrefix b := by
  decide +kernel
theorem gen_chan_bad : ∀ b : Byte, Gen.IsValidChannel_bytes1.contains b = Model.chanBad b := by
  decide +kernel
theorem gen_fold_range : ∀ b : Byte, Gen.ToRFC1459_bp0 b = (Model.fold1 b != b) := by decide +kernel
theorem gen_fold_count : Gen.ToRFC1459_bpCount = 1 := by decide

/-! ### Validators accept exactly the grammar, for all byte strings. -/
theorem isValidNick_iff (s : Bytes) : isValidNick s = true ↔ Spec.ValidNick s := by
  cases s with
  | nil => simp [isValidNick, Spec.ValidNick]
  | cons c rest => simp [isValidNick, Spec.ValidNick, nickFirst_eq, nickRest_eq]

theorem isValidUserBody_iff (s : Bytes) : isValidUserBody s = true ↔ Spec.ValidUserBody s := by
  cases s with
  | nil => simp [isValidUserBody, Spec.ValidUserBody]
  | cons c rest => simp [isValidUserBody, Spec.ValidUserBody, userFirst_eq, userRest_eq]

theorem isValidUser_iff (s : Bytes) : isValidUser s = true ↔ Spec.ValidUser s := by
  unfold Spec.ValidUser
  cases s with
  | nil => simp [isValidUser, Spec.ValidUserBody]
  | cons c rest =>
    by_cases hc : c = 0x7E
    · subst hc
      have hnot : ¬ Spec.ValidUserBody (0x7E :: rest) := by
        simp only [Spec.ValidUserBody]; intro h; exact absurd h.1 (by decide)
      cases rest with
      | nil => simp [isValidUser, Spec.ValidUserBody]; decide
      | cons d r =>
        simp only [isValidUser, if_true, List.length_cons]
        rw [if_neg (by omega), isValidUserBody_iff]
        simp [hnot]
    · simp only [isValidUser, hc, if_false]
      rw [isValidUserBody_iff]
      constructor
      · intro h; exact Or.inl h
      · rintro (h | ⟨t, ht, _⟩)
        · exact h
        · injection ht with h1 _; exact absurd h1 hc

theorem isValidChannel_iff (s : Bytes) : isValidChannel s = true ↔ Spec.ValidChannel s := by
  unfold Spec.ValidChannel isValidChannel
  cases s with
  | nil => simp
  | cons c rest =>
    simp only [List.length_cons, chanPrefix_eq, Bool.and_eq_true, Bool.not_eq_true',
      Bool.or_eq_false_iff, decide_eq_false_iff_not, Bool.and_eq_false_imp, beq_iff_eq,
      Bool.or_eq_false_iff, Bool.not_eq_false', List.any_eq_false, chanBad_eq,
      List.all_eq_true, chanIdByte_eq]
    constructor
    · rintro ⟨⟨h1, h2⟩, ⟨hp, hid⟩, hbad⟩
      refine ⟨by omega, by omega, hp, ?_, ?_⟩
      · intro hc; have := hid hc; exact ⟨by omega, this.2⟩
      · intro b hb; simpa using hbad b hb
    · rintro ⟨h1, h2, hp, hid, hbad⟩
      refine ⟨⟨by omega, by omega⟩, ⟨hp, ?_⟩, ?_⟩
      · intro hc; have := hid hc; exact ⟨by omega, this.2⟩
      · intro b hb; simp [hbad b hb]

/-- The executable deciders used by the driver agree with the grammar predicates. -/
theorem validNickB_iff (s : Bytes) : Spec.validNickB s = true ↔ Spec.ValidNick s := by
  cases s <;> simp [Spec.validNickB, Spec.ValidNick]

/-! ### The fold. -/
theorem fold_bytewise (s : Bytes) : fold s = s.map Spec.fold1 := by
  simp [fold, funext fold1_eq]

theorem fold_length (s : Bytes) : (fold s).length = s.length := by simp [fold]

theorem fold1_idem : ∀ b : Byte, Model.fold1 (Model.fold1 b) = Model.fold1 b := by decide +kernel

theorem fold_idem (s : Bytes) : fold (fold s) = fold s := by
  simp [fold, List.map_map, Function.comp_def, fold1_idem]

/-- The table: exactly A–Z and `[ \ ] ^` move, to a–z and `{ | } ~`; nothing else changes. -/
theorem fold_table : ∀ b : Byte,
    (Model.fold1 b ≠ b ↔ (0x41 ≤ b ∧ b ≤ 0x5E)) ∧
    ((0x41 ≤ b ∧ b ≤ 0x5E) → Model.fold1 b = b + 0x20) := by decide +kernel

theorem fold_append (a b : Bytes) : fold (a ++ b) = fold a ++ fold b := by simp [fold]

/-- Folded names are fixed points (used by every lookup). -/
theorem fold_fixed (s : Bytes) : fold (fold s) = fold s := fold_idem s

/-! ### Every name-keyed query gives the same answer for two names with the same fold -/

theorem lookupUser_respects_fold (st : St) (a b : Bytes) (h : fold a = fold b) : st.lookupUser a = st.lookupUser b := by
  simp [St.lookupUser, h]
theorem lookupChannel_respects_fold (st : St) (a b : Bytes) (h : fold a = fold b) : st.lookupChannel a = st.lookupChannel b := by
  simp [St.lookupChannel, h]
theorem isInChannel_respects_fold (st : St) (a b : Bytes) (h : fold a = fold b) : st.isInChannel a = st.isInChannel b := by
  simp [St.isInChannel, h]
theorem userIn_respects_fold (c : Channel) (a b : Bytes) (h : fold a = fold b) : c.userIn a = c.userIn b := by
  simp [Channel.userIn, h]
theorem inChannel_respects_fold (u : User) (a b : Bytes) (h : fold a = fold b) : u.inChannel a = u.inChannel b := by
  simp [User.inChannel, h]
theorem permsLookup_respects_fold (u : User) (a b : Bytes) (h : fold a = fold b) : u.permsLookup a = u.permsLookup b := by
  simp [User.permsLookup, h]
theorem sourceEquals_respects_fold (s : Source) (a b : Bytes) (i hst : Bytes) (h : fold a = fold b) :
    sourceEquals s ⟨a, i, hst⟩ = sourceEquals s ⟨b, i, hst⟩ := by
  simp [sourceEquals, h]
/-- … and names with DIFFERENT folds are different identities for the comparison. -/
theorem sourceEquals_iff (a b : Source) :
    sourceEquals a b = true ↔ fold a.name = fold b.name ∧ a.ident = b.ident ∧ a.host = b.host := by
  simp [sourceEquals, and_assoc]

/-! ### Non-vacuity -/
example : Spec.ValidNick [0x5B, 0x61, 0x2D, 0x39] := by rw [← isValidNick_iff]; decide
example : Spec.ValidUser [0x7E, 0x61, 0x2E, 0x62] := by rw [← isValidUser_iff]; decide
example : Spec.ValidChannel [0x21, 0x41, 0x42, 0x43, 0x31, 0x32, 0x78] := by
  rw [← isValidChannel_iff]; decide
example : ¬ Spec.ValidChannel [0x21, 0x41, 0x42, 0x63, 0x31, 0x32, 0x78] := by
  rw [← isValidChannel_iff]; decide
example : fold [0x41, 0x5B, 0x5E, 0xE9, 0x5F] = [0x61, 0x7B, 0x7E, 0xE9, 0x5F] := by decide

end Girc.Props.C15
