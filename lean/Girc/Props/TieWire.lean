import Girc.Proofs.TransTags
import Girc.Proofs.TransEvent
/-
  Tie (TieWire): the function bodies regenerated from the Go source on every run (Girc/Gen/Funcs.lean, written by
  tools/extract/translate.go) equal the hand-written models the property theorems of C01, C02 and C03 are about, for ALL inputs.
  Proved in Girc/Proofs/Trans*.lean or, where the proof is short, below the statement; each with a non-vacuity example
  that evaluates the generated function on a literal. An edit of the Go function changes Funcs.lean and the equivalence stops building.
-/
namespace Girc.Props.TieWire
open Girc Girc.Model Girc.Gen

/-! ### cap_tags.go -/

theorem tie_validTag : ∀ s : Bytes, Fn.validTag s = .ok (validTag s) := Proofs.Trans.validTag_eq
example : Fn.validTag [0x2B, 0x61, 0x2F, 0x62] = .ok true := by rfl
example : Fn.validTag [0x2B] = .ok false := by rfl

theorem tie_validTagValue : ∀ s : Bytes, Fn.validTagValue s = .ok (validTagValue s) := Proofs.Trans.validTagValue_eq
example : Fn.validTagValue [0x61, 0x5C, 0x73] = .ok true := by rfl
example : Fn.validTagValue [0x61, 0x3B] = .ok false := by rfl

theorem tie_ParseTags : ∀ raw : Bytes, Fn.ParseTags raw = .ok (some (parseTags raw)) := Proofs.Trans.ParseTags_eq
-- "@a=b;+c;=x"
example : Fn.ParseTags [0x40, 0x61, 0x3D, 0x62, 0x3B, 0x2B, 0x63, 0x3B, 0x3D, 0x78] =
    .ok (some [([0x61], [0x62]), ([0x2B, 0x63], [])]) := by rfl

/-- `Tags.Get` returns `(value, ok)`; the model returns `Option`. -/
theorem tie_Tags_Get : ∀ (t : Option Tags) (key : Bytes),
    Fn.Tags_Get t key = .ok (match tagsGet t key with
                             | some v => (v, true)
                             | none => ([], false)) := Proofs.Trans.Tags_Get_eq
-- {"a": `x\sy\`}.Get("a") = "x y\" (trailing backslash kept)
example : Fn.Tags_Get (some [([0x61], [0x78, 0x5C, 0x73, 0x79, 0x5C])]) [0x61] = .ok ([0x78, 0x20, 0x79, 0x5C], true) := by rfl
example : Fn.Tags_Get none [0x61] = .ok ([], false) := by rfl

/-! ### event.go -/

theorem tie_ParseSource : ∀ raw : Bytes, Fn.ParseSource raw = .ok (some (parseSource raw)) := Proofs.Trans.ParseSource_eq
-- "n!u@h"
example : Fn.ParseSource [0x6E, 0x21, 0x75, 0x40, 0x68] = .ok (some ⟨[0x6E], [0x75], [0x68]⟩) := by rfl

theorem tie_Source_Len : ∀ s : Source, Fn.Source_Len (some s) = .ok (sourceLen s : Int) := Proofs.Trans.Source_Len_eq
theorem tie_Source_Len_nil : Fn.Source_Len none = .error .nilDeref := rfl
example : Fn.Source_Len (some ⟨[0x6E], [0x75], [0x68]⟩) = .ok 5 := by rfl

theorem tie_Source_writeTo : ∀ (s : Source) (buf : Bytes), Fn.Source_writeTo (some s) buf = .ok (buf ++ sourceBytes s) :=
  Proofs.Trans.Source_writeTo_eq
theorem tie_Source_writeTo_nil : ∀ buf : Bytes, Fn.Source_writeTo none buf = .error .nilDeref := fun _ => rfl
example : Fn.Source_writeTo (some ⟨[0x6E], [0x75], [0x68]⟩) [0x3A] = .ok [0x3A, 0x6E, 0x21, 0x75, 0x40, 0x68] := by rfl

theorem tie_Source_Bytes : ∀ s : Source, Fn.Source_Bytes (some s) = .ok (sourceBytes s) :=
  fun _ => by simp only [Fn.Source_Bytes, gosem, Proofs.Trans.Source_writeTo_eq, List.nil_append]
theorem tie_Source_Bytes_nil : Fn.Source_Bytes none = .error .nilDeref := rfl
theorem tie_Source_String : ∀ s : Source, Fn.Source_String (some s) = .ok (sourceBytes s) := fun s => by
  unfold Fn.Source_String sourceBytes
  simp only [gosem, Proofs.Trans.decide_len_pos, show Go.strOfByte Fn.prefixIdent = [BANG] from rfl,
    show Go.strOfByte Fn.prefixHost = [AT] from rfl]
  by_cases hi : s.ident.length > 0 <;> by_cases hh : s.host.length > 0 <;> simp [hi, hh]
theorem tie_Source_String_nil : Fn.Source_String none = .error .nilDeref := rfl
example : Fn.Source_Bytes (some ⟨[0x6E], [0x75], [0x68]⟩) = .ok [0x6E, 0x21, 0x75, 0x40, 0x68] := by rfl
example : Fn.Source_String (some ⟨[0x6E], [], [0x68]⟩) = .ok [0x6E, 0x40, 0x68] := by rfl

/-- `ParseEvent` (the server-time block writes only `Event.Timestamp`, outside the model, and is erased by the
    translator): the regenerated parser never panics and equals the list-functional `parseEvent`. -/
theorem tie_ParseEvent : ∀ raw : Bytes, Fn.ParseEvent raw = .ok (parseEvent raw) := Proofs.Trans.ParseEvent_eq
-- "@a=b :n!u@h PRIVMSG #c :hi there\r\n"
example : Fn.ParseEvent [0x40, 0x61, 0x3D, 0x62, 0x20, 0x3A, 0x6E, 0x21, 0x75, 0x40, 0x68, 0x20, 0x50, 0x52, 0x49, 0x56, 0x4D, 0x53,
    0x47, 0x20, 0x23, 0x63, 0x20, 0x3A, 0x68, 0x69, 0x20, 0x74, 0x68, 0x65, 0x72, 0x65, 0x0D, 0x0A] =
    .ok (some { tags := some [([0x61], [0x62])], source := some ⟨[0x6E], [0x75], [0x68]⟩,
                command := [0x50, 0x52, 0x49, 0x56, 0x4D, 0x53, 0x47],
                params := [[0x23, 0x63], [0x68, 0x69, 0x20, 0x74, 0x68, 0x65, 0x72, 0x65]] }) := by rfl
example : Fn.ParseEvent [0x3A, 0x20, 0x78] = .ok none := by rfl

/-! ### cap_tags.go, serialiser side

`Tags.Bytes` ranges over the map (`for tagName := range t`, order unspecified in Go) and sorts the keys with
`sort.Strings` (trusted table entry ↦ `sortStrings = sortBytes`).  The translation visits the keys in the order of the
association list that represents the map; `tie_Tags_Bytes` holds for every list, and `tie_Tags_Bytes_order` says the
result is the same for every permutation of the entries, i.e. for every order Go may pick. -/

theorem tie_Tags_Bytes : ∀ t : Option Tags, Fn.Tags_Bytes t = .ok (tagsBytes t) := Proofs.Trans.Tags_Bytes_eq
theorem tie_Tags_Bytes_order : ∀ {t t' : Tags}, t.Perm t' → (AMap.keys t).Nodup →
    Fn.Tags_Bytes (some t) = Fn.Tags_Bytes (some t') :=
  fun h hnd => by rw [Proofs.Trans.Tags_Bytes_eq, Proofs.Trans.Tags_Bytes_eq, Proofs.Trans.tagsBytes_perm h hnd]
-- {"b": "", "a": "1"} in either order ↦ "@a=1;b"
example : Fn.Tags_Bytes (some [([0x62], []), ([0x61], [0x31])]) = .ok [0x40, 0x61, 0x3D, 0x31, 0x3B, 0x62] := by rfl
example : Fn.Tags_Bytes (some [([0x61], [0x31]), ([0x62], [])]) = .ok [0x40, 0x61, 0x3D, 0x31, 0x3B, 0x62] := by rfl
example : Fn.Tags_Bytes none = .ok [] := by rfl

theorem tie_Tags_Len : ∀ t : Option Tags, Fn.Tags_Len t = .ok (tagsLen t : Int) := Proofs.Trans.Tags_Len_eq
example : Fn.Tags_Len (some [([0x62], []), ([0x61], [0x31])]) = .ok 6 := by rfl

/-- `Tags.writeTo(w io.Writer)` with `w` a `*bytes.Buffer` (a buffer is its contents; `Write` returns `len, nil`):
    results `(n, err)` and the buffer afterwards. -/
theorem tie_Tags_writeTo : ∀ (t : Option Tags) (w : Bytes),
    Fn.Tags_writeTo t w = .ok (((tagsWrite t).length : Int), none, w ++ tagsWrite t) := Proofs.Trans.Tags_writeTo_eq
example : Fn.Tags_writeTo (some [([0x61], [0x31])]) [0x78] = .ok (5, none, [0x78, 0x40, 0x61, 0x3D, 0x31, 0x20]) := by rfl
example : Fn.Tags_writeTo (some []) [0x78] = .ok (0, none, [0x78]) := by rfl

/-- `Tags.Set(key, value) error`: results = (error (nil = `none`; the message text is abstracted), the caller's map
    afterwards). -/
theorem tie_Tags_Set : ∀ (m : Tags) (key value : Bytes),
    Fn.Tags_Set (some m) key value = .ok (match tagsSet m key value with
                                          | some m' => (none, some m')
                                          | none => (some Go.GoErr.mk, some m)) :=
  fun m => Proofs.Trans.Tags_Set_eq (some m)
/-- On a nil map the receiver is re-bound to a fresh map: the caller's map stays nil. -/
theorem tie_Tags_Set_nil : ∀ key value : Bytes,
    Fn.Tags_Set none key value = .ok (if (tagsSet [] key value).isSome then none else some Go.GoErr.mk, none) :=
  fun key value => by
    rw [Proofs.Trans.Tags_Set_eq, Option.getD_none]
    cases tagsSet [] key value <;> rfl
-- Set("a", "x y") stores `x\sy`; Set("a b", …) is an error and leaves the map alone
example : Fn.Tags_Set (some []) [0x61] [0x78, 0x20, 0x79] = .ok (none, some [([0x61], [0x78, 0x5C, 0x73, 0x79])]) := by rfl
example : Fn.Tags_Set (some []) [0x61, 0x20, 0x62] [0x78] = .ok (some Go.GoErr.mk, some []) := by rfl
example : Fn.Tags_Set none [0x61] [0x78] = .ok (none, none) := by rfl

/-! ### event.go, serialiser side -/

theorem tie_Event_LenOpts : ∀ (e : Event) (includeTags : Bool), Fn.Event_LenOpts (some e) includeTags = .ok (eventLen e : Int) :=
  Proofs.Trans.Event_LenOpts_eq
theorem tie_Event_LenOpts_nil : ∀ b : Bool, Fn.Event_LenOpts none b = .error .nilDeref := fun _ => rfl
theorem tie_Event_Len : ∀ e : Event, Fn.Event_Len (some e) = .ok (eventLen e : Int) :=
  fun _ => by simp only [Fn.Event_Len, gosem, Proofs.Trans.Event_LenOpts_eq]
theorem tie_Event_Len_nil : Fn.Event_Len none = .error .nilDeref := rfl
theorem tie_Event_Bytes : ∀ e : Event, Fn.Event_Bytes (some e) = .ok (eventBytes e) := Proofs.Trans.Event_Bytes_eq
theorem tie_Event_Bytes_nil : Fn.Event_Bytes none = .error .nilDeref := rfl
-- @a=1 :n!u@h PRIVMSG #c :hi\nthere  (the LF is stripped)
example : Fn.Event_Bytes (some { tags := some [([0x61], [0x31])], source := some ⟨[0x6E], [0x75], [0x68]⟩, command := [0x50, 0x52, 0x49, 0x56, 0x4D, 0x53, 0x47], params := [[0x23, 0x63], [0x68, 0x69, 0x0A, 0x20, 0x74]] }) =
    .ok [0x40, 0x61, 0x3D, 0x31, 0x20, 0x3A, 0x6E, 0x21, 0x75, 0x40, 0x68, 0x20, 0x50, 0x52, 0x49, 0x56, 0x4D, 0x53, 0x47,
         0x20, 0x23, 0x63, 0x20, 0x3A, 0x68, 0x69, 0x20, 0x74] := by rfl
example : Fn.Event_Len (some { tags := some [([0x61], [0x31])], source := some ⟨[0x6E], [0x75], [0x68]⟩, command := [0x50, 0x52, 0x49, 0x56, 0x4D, 0x53, 0x47], params := [[0x23, 0x63], [0x68, 0x69, 0x0A, 0x20, 0x74]] }) =
    .ok 29 := by rfl

/-! ### event.go, query helpers (models in Model/EventHelpers.lean) -/

theorem tie_Event_Last : ∀ e : Event, Fn.Event_Last (some e) = .ok (eventLast e) := Proofs.Trans.Event_Last_eq
theorem tie_Event_Last_nil : Fn.Event_Last none = .error .nilDeref := rfl
example : Fn.Event_Last (some { command := [0x58], params := [[0x61], [0x62]] }) = .ok [0x62] := by rfl
example : Fn.Event_Last (some { command := [0x58], params := [] }) = .ok [] := by rfl

theorem tie_Source_ID : ∀ s : Source, Fn.Source_ID (some s) = .ok (sourceID s) := Proofs.Trans.Source_ID_eq
theorem tie_Source_ID_nil : Fn.Source_ID none = .error .nilDeref := rfl
theorem tie_Source_Equals : ∀ a b : Option Source, Fn.Source_Equals a b = .ok (sourceEq a b) := Proofs.Trans.Source_Equals_eq
example : Fn.Source_Equals (some ⟨[0x4E, 0x5B], [0x75], [0x68]⟩) (some ⟨[0x6E, 0x7B], [0x75], [0x68]⟩) = .ok true := by rfl
example : Fn.Source_Equals none (some ⟨[0x6E], [], []⟩) = .ok false := by rfl
example : Fn.Source_Equals none none = .ok true := by rfl

theorem tie_Source_IsHostmask : ∀ s : Source, Fn.Source_IsHostmask (some s) = .ok (isHostmask s) :=
  fun _ => by simp only [Fn.Source_IsHostmask, isHostmask, gosem, Proofs.Trans.decide_len_pos]
theorem tie_Source_IsHostmask_nil : Fn.Source_IsHostmask none = .error .nilDeref := rfl
theorem tie_Source_IsServer : ∀ s : Source, Fn.Source_IsServer (some s) = .ok (isServer s) := fun s => by
  simp only [Fn.Source_IsServer, isServer, gosem]
  cases s.ident <;> cases s.host <;> rfl
theorem tie_Source_IsServer_nil : Fn.Source_IsServer none = .error .nilDeref := rfl
example : Fn.Source_IsHostmask (some ⟨[0x6E], [0x75], [0x68]⟩) = .ok true := by rfl
example : Fn.Source_IsServer (some ⟨[0x6E], [], []⟩) = .ok true := by rfl

theorem tie_Event_IsFromChannel : ∀ e : Event, Fn.Event_IsFromChannel (some e) = .ok (isFromChannel e) :=
  fun e => Proofs.Trans.isChatTo_eq e isValidChannel Fn.IsValidChannel Proofs.Trans.IsValidChannel_eq
theorem tie_Event_IsFromChannel_nil : Fn.Event_IsFromChannel none = .error .nilDeref := rfl
theorem tie_Event_IsFromUser : ∀ e : Event, Fn.Event_IsFromUser (some e) = .ok (isFromUser e) :=
  fun e => Proofs.Trans.isChatTo_eq e isValidNick Fn.IsValidNick Proofs.Trans.IsValidNick_eq
theorem tie_Event_IsFromUser_nil : Fn.Event_IsFromUser none = .error .nilDeref := rfl
example : Fn.Event_IsFromChannel (some { source := some ⟨[0x6E], [], []⟩, command := PRIVMSG, params := [[0x23, 0x63], [0x78]] }) =
    .ok true := by rfl
example : Fn.Event_IsFromUser (some { source := some ⟨[0x6E], [], []⟩, command := PRIVMSG, params := [[0x23, 0x63], [0x78]] }) =
    .ok false := by rfl

/-! ### cap_tags.go and event.go: the remaining value-level helpers (models: Model/Phase4Helpers.lean) -/

theorem tie_Tags_Count : ∀ t : Option Tags, Fn.Tags_Count t = .ok (tagsCount t) := Proofs.Trans.Tags_Count_eq
example : Fn.Tags_Count none = .ok 0 := by rfl
example : Fn.Tags_Count (some [([0x61], [0x78]), ([0x62], [])]) = .ok 2 := by rfl

/-- `Tags.Keys`: the keys in the order the map is ranged over (= the order of the representing list) … -/
theorem tie_Tags_Keys : ∀ t : Option Tags, Fn.Tags_Keys t = .ok (Go.mapKeys t) := Proofs.Trans.Tags_Keys_eq
/-- … so two representations of the same map give permutations of the same keys ("unsorted" in the Go doc comment). -/
theorem tie_Tags_Keys_order : ∀ m m' : Tags, List.Perm m m' →
    ∃ ks ks', Fn.Tags_Keys (some m) = .ok ks ∧ Fn.Tags_Keys (some m') = .ok ks' ∧ List.Perm ks ks' :=
  Proofs.Trans.Tags_Keys_perm
example : Fn.Tags_Keys (some [([0x62], [0x78]), ([0x61], [])]) = .ok [[0x62], [0x61]] := by rfl
example : Fn.Tags_Keys none = .ok [] := by rfl

/-- `Tags.Equals` compares the `account` tag only. -/
theorem tie_Tags_Equals : ∀ t tt : Option Tags, Fn.Tags_Equals t tt = .ok (tagsEquals t tt) := Proofs.Trans.Tags_Equals_eq
-- {"account": "a", "x": "1"} equals {"account": "a"}; a nil map equals a map without the tag
example : Fn.Tags_Equals (some [([0x61, 0x63, 0x63, 0x6F, 0x75, 0x6E, 0x74], [0x61]), ([0x78], [0x31])])
    (some [([0x61, 0x63, 0x63, 0x6F, 0x75, 0x6E, 0x74], [0x61])]) = .ok true := by rfl
example : Fn.Tags_Equals none (some [([0x78], [0x31])]) = .ok true := by rfl

/-- `Tags.Remove`: (was the key there?, the caller's map afterwards). -/
theorem tie_Tags_Remove : ∀ (t : Option Tags) (key : Bytes), Fn.Tags_Remove t key = .ok (tagsRemove t key) :=
  Proofs.Trans.Tags_Remove_eq
example : Fn.Tags_Remove (some [([0x61], [0x78]), ([0x62], [])]) [0x61] = .ok (true, some [([0x62], [])]) := by rfl
example : Fn.Tags_Remove (some [([0x61], [0x78])]) [0x62] = .ok (false, some [([0x61], [0x78])]) := by rfl
example : Fn.Tags_Remove none [0x62] = .ok (false, none) := by rfl

/-- `(*Event).Equals`; the Go code has no nil guard: a nil receiver or argument panics. -/
theorem tie_Event_Equals : ∀ e ev : Event, Fn.Event_Equals (some e) (some ev) = .ok (eventEquals e ev) :=
  Proofs.Trans.Event_Equals_eq
theorem tie_Event_Equals_nil_left : ∀ x : Option Event, Fn.Event_Equals none x = .error .nilDeref :=
  Proofs.Trans.Event_Equals_nil_left
theorem tie_Event_Equals_nil_right : ∀ e : Event, Fn.Event_Equals (some e) none = .error .nilDeref :=
  Proofs.Trans.Event_Equals_nil_right
example : Fn.Event_Equals (some { command := PRIVMSG, params := [[0x23, 0x63], [0x78]] })
    (some { command := PRIVMSG, params := [[0x23, 0x63], [0x78]], tags := some [([0x78], [0x31])] }) = .ok true := by rfl
example : Fn.Event_Equals (some { command := PRIVMSG, params := [[0x23, 0x63], [0x78]] })
    (some { command := PRIVMSG, params := [[0x23, 0x63], [0x79]] }) = .ok false := by rfl

theorem tie_Event_String : ∀ e : Event, Fn.Event_String (some e) = .ok (eventBytes e) := Proofs.Trans.Event_String_eq
theorem tie_Event_String_nil : Fn.Event_String none = .error .nilDeref := Proofs.Trans.Event_String_nil
example : Fn.Event_String (some { command := [0x50, 0x49, 0x4E, 0x47], params := [[0x78]] }) =
    .ok [0x50, 0x49, 0x4E, 0x47, 0x20, 0x78] := by rfl

/-- `(*Source).Copy` and `(*Event).Copy` at VALUE level: the copy equals the argument, nil ⇒ nil.  (That the copy shares no
    memory with the original is C13's subject, not the value model's.)  The hypothesis on the tags is the representation
    invariant of a Go map; `tie_Event_Copy_go` is the exact value for every association list. -/
theorem tie_Source_Copy : ∀ s : Option Source, Fn.Source_Copy s = .ok s := Proofs.Trans.Source_Copy_opt
theorem tie_Event_Copy : ∀ e : Event, (∀ m, e.tags = some m → (AMap.keys m).Nodup) → Fn.Event_Copy (some e) = .ok (some e) :=
  Proofs.Trans.Event_Copy_eq
theorem tie_Event_Copy_go : ∀ e : Event,
    Fn.Event_Copy (some e) = .ok (some { e with tags := e.tags.map Proofs.Trans.tagsCopy }) := Proofs.Trans.Event_Copy_go
theorem tie_Event_Copy_nil : Fn.Event_Copy none = .ok none := Proofs.Trans.Event_Copy_nil
example : Fn.Event_Copy (some { tags := some [([0x61], [0x78])], source := some ⟨[0x6E], [0x75], [0x68]⟩, command := PRIVMSG, params := [[0x23, 0x63], [0x78]] }) =
    .ok (some { tags := some [([0x61], [0x78])], source := some ⟨[0x6E], [0x75], [0x68]⟩, command := PRIVMSG, params := [[0x23, 0x63], [0x78]] }) := by rfl
example : Fn.Source_Copy (some ⟨[0x6E], [0x75], [0x68]⟩) = .ok (some ⟨[0x6E], [0x75], [0x68]⟩) := by rfl

end Girc.Props.TieWire
