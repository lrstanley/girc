import Girc.Proofs.TransCommands
/-
  Tie (TieCommands, C11 / C03): the helpers of commands.go regenerated from the Go source.  Calls of the sinks `cmd.c.Send` /
  `cmd.c.write` are collected, in call order, into the list of `Out`s the generated function returns;
  `cmd.c.MaxEventLength()` is the explicit parameter `maxEventLength`.  Each theorem states the corresponding branch of the
  model's `helperOuts` (Model/Commands.lean); `Join` / `List` are tied to `joinBatches`, which C11 is about.
-/
namespace Girc.Props.TieCommands
open Girc Girc.Model Girc.Gen

theorem tie_Commands_Join : ∀ (maxEventLength : Int) (channels : List Bytes),
    Fn.Commands_Join maxEventLength channels =
      .ok ((joinBatches (maxEventLength - 4 - 1) channels).map fun bch => Out.send (ev "JOIN" [bch])) :=
  open Proofs.Trans Go in fun maxEventLength channels => by
  unfold Fn.Commands_Join joinBatches
  cases channels with
  | nil => rfl
  | cons ch rest =>
    simp only [gosem, show len Fn.JOIN = 4 from rfl,
      batch_loop (ch :: rest) _ "JOIN" Fn.JOIN (by decide +kernel) (Fn.Commands_Join_loop1 (ch :: rest) _)
        (fun _ _ _ _ => rfl) (List.cons_ne_nil _ _)]
theorem tie_Commands_List : ∀ (maxEventLength : Int) (channels : List Bytes),
    Fn.Commands_List maxEventLength channels = .ok
      (if channels.isEmpty then [Out.send (ev "LIST" [])]
       else (joinBatches (maxEventLength - 4 - 1) channels).map fun bch => Out.send (ev "LIST" [bch])) :=
  open Proofs.Trans Go in fun maxEventLength channels => by
  unfold Fn.Commands_List joinBatches
  cases channels with
  | nil => simp only [gosem, ev_cmd "LIST" Fn.LIST (by decide +kernel)]; rfl
  | cons ch rest =>
    simp only [gosem, show len Fn.JOIN = 4 from rfl, show (len (ch :: rest) == 0) = false from
        beq_false_of_ne (by rw [len, List.length_cons]; omega), List.isEmpty_cons,
      batch_loop (ch :: rest) _ "LIST" Fn.LIST (by decide +kernel) (Fn.Commands_List_loop1 (ch :: rest) _)
        (fun _ _ _ _ => rfl) (List.cons_ne_nil _ _)]
theorem tie_Commands_Part : ∀ channels : List Bytes,
    Fn.Commands_Part channels = .ok (channels.map fun c => Out.send (ev "PART" [c])) :=
  open Proofs.Trans Go in fun channels => by
  simp only [gosem, Fn.Commands_Part, forSend channels (Fn.Commands_Part_loop1 channels) (fun c => Out.send (ev "PART" [c]))
    (fun fuel outs => by simp only [gosem, Fn.Commands_Part_loop1])
    (fun fuel n outs x hn hx => by
      simp only [gosem, Fn.Commands_Part_loop1, decide_lt_len hn, atL_ofNat hx, ev_cmd "PART" Fn.PART (by decide +kernel)])]
theorem tie_Commands_Kick : ∀ channel user reason : Bytes, Fn.Commands_Kick channel user reason = .ok
    ((if reason.isEmpty then [] else [Out.send (ev "KICK" [channel, user, reason])]) ++
      [Out.send (ev "KICK" [channel, user])]) := fun channel user reason => by
  cases reason <;> simp [Fn.Commands_Kick, Proofs.Trans.ev_cmd "KICK" Fn.KICK (by decide +kernel), pure, Except.pure]
theorem tie_Commands_Mode : ∀ (target modes : Bytes) (params : List Bytes),
    Fn.Commands_Mode target modes params = .ok [Out.send (ev "MODE" ([target, modes] ++ params))] :=
  fun target modes params => by
  simp [Fn.Commands_Mode, Proofs.Trans.ev_cmd "MODE" Fn.MODE (by decide +kernel), pure, Except.pure]
theorem tie_Commands_Ban : ∀ channel mask : Bytes,
    Fn.Commands_Ban channel mask = .ok [Out.send (ev "MODE" [channel, b "+b", mask])] := fun channel mask => by
  simp [Fn.Commands_Ban, tie_Commands_Mode, show b "+b" = [0x2B, 0x62] by decide +kernel, bind, Except.bind, pure,
    Except.pure]
theorem tie_Commands_Invite : ∀ (channel : Bytes) (users : List Bytes),
    Fn.Commands_Invite channel users = .ok (users.map fun u => Out.send (ev "INVITE" [u, channel])) :=
  open Proofs.Trans Go in fun channel users => by
  simp only [gosem, Fn.Commands_Invite, forSend users (Fn.Commands_Invite_loop1 channel users)
    (fun u => Out.send (ev "INVITE" [u, channel]))
    (fun fuel outs => by simp only [gosem, Fn.Commands_Invite_loop1])
    (fun fuel n outs x hn hx => by
      simp only [gosem, Fn.Commands_Invite_loop1, decide_lt_len hn, atL_ofNat hx,
        ev_cmd "INVITE" Fn.INVITE (by decide +kernel)])]
theorem tie_Commands_Back : Fn.Commands_Back = .ok [Out.send (ev "AWAY" [])] := by
  rw [Proofs.Trans.ev_cmd "AWAY" Fn.AWAY (by decide +kernel)]; rfl
theorem tie_Commands_Away : ∀ reason : Bytes, Fn.Commands_Away reason = .ok
    (if reason.isEmpty then [Out.send (ev "AWAY" [])] else [Out.send (ev "AWAY" [reason])]) := fun reason => by
  cases reason <;> simp [Fn.Commands_Away, tie_Commands_Back, Proofs.Trans.ev_cmd "AWAY" Fn.AWAY (by decide +kernel), bind, Except.bind,
    pure, Except.pure]
theorem tie_Commands_Who : ∀ users : List Bytes,
    Fn.Commands_Who users = .ok (users.map fun u => Out.send (ev "WHO" [u, b "%tcuhnr,2"])) :=
  open Proofs.Trans Go in fun users => by
  simp only [gosem, Fn.Commands_Who, forSend users (Fn.Commands_Who_loop1 users)
    (fun u => Out.send (ev "WHO" [u, b "%tcuhnr,2"]))
    (fun fuel outs => by simp only [gosem, Fn.Commands_Who_loop1])
    (fun fuel n outs x hn hx => by
      simp only [gosem, Fn.Commands_Who_loop1, decide_lt_len hn, atL_ofNat hx, ev_cmd "WHO" Fn.WHO (by decide +kernel),
        show b "%tcuhnr,2" = [0x25, 0x74, 0x63, 0x75, 0x68, 0x6E, 0x72, 0x2C, 0x32] by decide +kernel])]
theorem tie_Commands_Whois : ∀ users : List Bytes,
    Fn.Commands_Whois users = .ok (users.map fun u => Out.send (ev "WHOIS" [u])) :=
  open Proofs.Trans Go in fun users => by
  simp only [gosem, Fn.Commands_Whois, forSend users (Fn.Commands_Whois_loop1 users) (fun u => Out.send (ev "WHOIS" [u]))
    (fun fuel outs => by simp only [gosem, Fn.Commands_Whois_loop1])
    (fun fuel n outs x hn hx => by
      simp only [gosem, Fn.Commands_Whois_loop1, decide_lt_len hn, atL_ofNat hx,
        ev_cmd "WHOIS" Fn.WHOIS (by decide +kernel)])]
theorem tie_Commands_Ping : ∀ id : Bytes, Fn.Commands_Ping id = .ok [Out.write (ev "PING" [id])] :=
  by
  intros; rw [Proofs.Trans.ev_cmd "PING" Fn.PING (by decide +kernel)]; rfl
theorem tie_Commands_Pong : ∀ id : Bytes, Fn.Commands_Pong id = .ok [Out.write (ev "PONG" [id])] :=
  by
  intros; rw [Proofs.Trans.ev_cmd "PONG" Fn.PONG (by decide +kernel)]; rfl

theorem tie_Commands_Nick : ∀ name : Bytes, Fn.Commands_Nick name = .ok [Out.send (ev "NICK" [name])] :=
  by
  intros; rw [Proofs.Trans.ev_cmd "NICK" Fn.NICK (by decide +kernel)]; rfl
theorem tie_Commands_JoinKey : ∀ channel password : Bytes,
    Fn.Commands_JoinKey channel password = .ok [Out.send (ev "JOIN" [channel, password])] := by
  intros; rw [Proofs.Trans.ev_cmd "JOIN" Fn.JOIN (by decide +kernel)]; rfl
theorem tie_Commands_PartMessage : ∀ channel message : Bytes,
    Fn.Commands_PartMessage channel message = .ok [Out.send (ev "PART" [channel, message])] :=
  by
  intros; rw [Proofs.Trans.ev_cmd "PART" Fn.PART (by decide +kernel)]; rfl
theorem tie_Commands_Message : ∀ target message : Bytes,
    Fn.Commands_Message target message = .ok [Out.send (ev "PRIVMSG" [target, message])] := by
  intros; rw [Proofs.Trans.ev_cmd "PRIVMSG" Fn.PRIVMSG (by decide +kernel)]; rfl
theorem tie_Commands_Notice : ∀ target message : Bytes,
    Fn.Commands_Notice target message = .ok [Out.send (ev "NOTICE" [target, message])] := by
  intros; rw [Proofs.Trans.ev_cmd "NOTICE" Fn.NOTICE (by decide +kernel)]; rfl
theorem tie_Commands_Action : ∀ target message : Bytes, Fn.Commands_Action target message =
    .ok [Out.send (ev "PRIVMSG" [target, [0x01] ++ b "ACTION " ++ message ++ [0x01]])] := by
  intros
  rw [Proofs.Trans.ev_cmd "PRIVMSG" Fn.PRIVMSG (by decide +kernel),
    show b "ACTION " = [0x41, 0x43, 0x54, 0x49, 0x4F, 0x4E, 0x20] by decide +kernel]
  rfl
theorem tie_Commands_Topic : ∀ channel message : Bytes,
    Fn.Commands_Topic channel message = .ok [Out.send (ev "TOPIC" [channel, message])] := by
  intros; rw [Proofs.Trans.ev_cmd "TOPIC" Fn.TOPIC (by decide +kernel)]; rfl
theorem tie_Commands_Oper : ∀ user pass : Bytes, Fn.Commands_Oper user pass = .ok [Out.send (ev "OPER" [user, pass])] :=
  by
  intros; rw [Proofs.Trans.ev_cmd "OPER" Fn.OPER (by decide +kernel)]; rfl
theorem tie_Commands_Unban : ∀ channel mask : Bytes,
    Fn.Commands_Unban channel mask = .ok [Out.send (ev "MODE" [channel, b "-b", mask])] := fun channel mask => by
  simp [Fn.Commands_Unban, tie_Commands_Mode, show b "-b" = [0x2D, 0x62] by decide +kernel, bind, Except.bind, pure,
    Except.pure]
/-- `SendRaw(lines…)`: every line is parsed (by the regenerated `ParseEvent`) and sent, up to the first one that does not
    parse — the model's `helperOuts … "SendRaw"` branch; the returned error is non-nil exactly when some line does not parse. -/
theorem tie_Commands_SendRaw : ∀ raw : List Bytes, Fn.Commands_SendRaw raw = .ok
    (if (raw.map parseEvent).all Option.isSome then none else some Go.GoErr.mk,
     ((raw.map parseEvent).takeWhile Option.isSome).filterMap (fun o => o.map Out.send)) :=
  open Proofs.Trans Go in fun raw => by
  obtain ⟨r, hr, hv⟩ := map_eq_ok (Commands_SendRaw_loop1_eq raw)
  simp only [gosem, Fn.Commands_SendRaw, hr]
  cases r <;> exact congrArg Except.ok hv

/-- The parameters of the events handed to the sinks, for the examples (`Out` has no decidable equality). -/
def outParams : List Out → List (List Bytes)
  | [] => []
  | .send e :: r => e.params :: outParams r
  | .write e :: r => e.params :: outParams r
  | .inject e :: r => e.params :: outParams r
  | .close :: r => outParams r

-- JOIN #a #b #c with room for 5 bytes per line: "#a,#b" then "#c"
example : (Fn.Commands_Join 10 [[0x23, 0x61], [0x23, 0x62], [0x23, 0x63]]).map outParams =
    .ok [[[0x23, 0x61, 0x2C, 0x23, 0x62]], [[0x23, 0x63]]] := by rfl
example : (Fn.Commands_Join 10 []).map outParams = .ok [] := by rfl
example : (Fn.Commands_List 10 []).map outParams = .ok [[]] := by rfl
example : (Fn.Commands_Kick [0x23] [0x6E] [0x72]).map outParams = .ok [[[0x23], [0x6E], [0x72]], [[0x23], [0x6E]]] := by rfl
example : (Fn.Commands_Ban [0x23] [0x6D]).map outParams = .ok [[[0x23], [0x2B, 0x62], [0x6D]]] := by rfl
example : (Fn.Commands_Action [0x23] [0x68]).map outParams =
    .ok [[[0x23], [0x01, 0x41, 0x43, 0x54, 0x49, 0x4F, 0x4E, 0x20, 0x68, 0x01]]] := by rfl
-- SendRaw("PING a", ":", "PING b"): the second line does not parse: one event sent, error returned
example : (Fn.Commands_SendRaw [[0x50, 0x49, 0x4E, 0x47, 0x20, 0x61], [0x3A], [0x50, 0x49, 0x4E, 0x47, 0x20, 0x62]]).map
    (fun r => (r.1.isSome, outParams r.2)) = .ok (true, [[[0x61]]]) := by rfl

end Girc.Props.TieCommands
