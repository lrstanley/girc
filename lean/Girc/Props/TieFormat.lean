import Girc.Proofs.TransFmt
import Girc.Proofs.Format
/-
  Tie (TieFormat): the function bodies regenerated from the Go source on every run (Girc/Gen/Funcs.lean, written by
  tools/extract/translate.go) equal the hand-written models the property theorems of C20 are about, for ALL inputs.
  Proved in Girc/Proofs/Trans*.lean or, where the proof is short, below the statement; each with a non-vacuity example
  that evaluates the generated function on a literal. An edit of the Go function changes Funcs.lean and the equivalence stops building.
-/
namespace Girc.Props.TieFormat
open Girc Girc.Model Girc.Gen

/-! ### format.go -/

/-- `Fmt`: the regenerated index-based scanner (it rewrites `text` inside the loop and consults the two package-level
    tables, regenerated as `Fn.fmtColors` / `Fn.fmtCodes`) never panics and equals the list-functional `fmt`. -/
theorem tie_Fmt : ∀ text : Bytes, Fn.Fmt text = .ok (fmt text) := fun text => by
  have h : (Fn.Fmt_loop1 (Go.fuelTo 0 (Go.len text)) text (-1) 0).map Proofs.Trans.fmtOut = .ok (fmt text) :=
    Proofs.Trans.Fmt_loop1_eq _ [] none text (Proofs.Trans.fuelTo_gt 0 _)
  obtain ⟨r, hr, hv⟩ := Proofs.Trans.map_eq_ok h
  rw [Fn.Fmt]
  simp only [gosem, hr]
  cases r <;> exact congrArg Except.ok hv
-- "{RED}{b}Hi {red,blue}W{c}{x"
example : Fn.Fmt [0x7B, 0x52, 0x45, 0x44, 0x7D, 0x7B, 0x62, 0x7D, 0x48, 0x69, 0x20, 0x7B, 0x72, 0x65, 0x64, 0x2C, 0x62, 0x6C, 0x75,
    0x65, 0x7D, 0x57, 0x7B, 0x63, 0x7D, 0x7B, 0x78] =
    .ok [0x03, 0x30, 0x34, 0x02, 0x48, 0x69, 0x20, 0x03, 0x30, 0x34, 0x2C, 0x30, 0x32, 0x57, 0x03, 0x7B, 0x78] := by rfl

/-- `TrimFmt` ranges over the two PACKAGE-LEVEL maps; Go does not specify the order, so the orders are explicit
    parameters of the generated function and the theorem holds for every pair of orders. -/
theorem tie_TrimFmt : ∀ (colorsOrder codesOrder : List Bytes) (text : Bytes),
    Fn.TrimFmt colorsOrder codesOrder text = .ok (trimFmt (colorsOrder ++ codesOrder) text) :=
  fun _ _ _ => by
    simp only [Fn.TrimFmt, gosem, Proofs.Trans.TrimFmt_loop1_eq, Proofs.Trans.TrimFmt_loop2_eq, trimFmt, List.foldl_append]

/-- Every order Go can pick (a permutation of the keys of each regenerated table) is a permutation of the model's
    `tokenNames` — the hypothesis of `C20.trimfmt_exact`. -/
theorem tie_TrimFmt_orders : ∀ (o1 o2 : List Bytes), o1.Perm (Fn.fmtColors.map (·.1)) → o2.Perm (Fn.fmtCodes.map (·.1)) →
    (o1 ++ o2).Perm tokenNames :=
  fun _ _ h1 h2 =>
    List.Perm.append (h1.trans (by have := Proofs.Trans.fmtColors_perm.map (·.1); rwa [List.map_map] at this))
      (h2.trans (Proofs.Trans.fmtCodes_perm.map (·.1)))

/-- Hence, on well-formed input, the regenerated `TrimFmt` removes exactly the lower-case tokens whatever the order. -/
theorem tie_TrimFmt_exact (o1 o2 : List Bytes) (h1 : o1.Perm (Fn.fmtColors.map (·.1))) (h2 : o2.Perm (Fn.fmtCodes.map (·.1)))
    (items : List Spec.Item) (h : items.all Spec.wfItem = true) :
    Fn.TrimFmt o1 o2 (Spec.src items) = .ok (Spec.src (items.filter (fun it => !Spec.isLowerToken it))) := by
  rw [tie_TrimFmt, Proofs.Format.trimfmt_exact _ (tie_TrimFmt_orders o1 o2 h1 h2) items h]

-- "a{red}b{b}" with the tables in source order
example : Fn.TrimFmt (Fn.fmtColors.map (·.1)) (Fn.fmtCodes.map (·.1)) [0x61, 0x7B, 0x72, 0x65, 0x64, 0x7D, 0x62, 0x7B, 0x62, 0x7D] =
    .ok [0x61, 0x62] := by rfl

/-- `StripRaw`: `reColor.ReplaceAllString(text, "")` is the TRUSTED table entry `stripColor` (the regular expression, keyed by
    its source text, ↦ the hand-written matcher); the `for _, code := range fmtCodes` loop ranges over a package-level map,
    so the order of its keys is a parameter: for every order that is a permutation of the regenerated keys the result is
    the model's `stripRaw`. -/
theorem tie_StripRaw : ∀ (order : List Bytes), order.Perm (Fn.fmtCodes.map (·.1)) → ∀ text : Bytes,
    Fn.StripRaw order text = .ok (stripRaw text) :=
  fun order ho => Proofs.Trans.StripRaw_eq order fun _ => ho.mem_iff
-- "\x0304,02a\x02b\x0f" ↦ "ab"
example : Fn.StripRaw (Fn.fmtCodes.map (·.1)) [0x03, 0x30, 0x34, 0x2C, 0x30, 0x32, 0x61, 0x02, 0x62, 0x0F] = .ok [0x61, 0x62] := by rfl
example : Fn.StripRaw (Fn.fmtCodes.map (·.1)).reverse [0x03, 0x30, 0x34, 0x2C, 0x30, 0x32, 0x61, 0x02, 0x62, 0x0F] = .ok [0x61, 0x62] := by
  rfl

end Girc.Props.TieFormat
