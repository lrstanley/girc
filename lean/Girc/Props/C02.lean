import Girc.Proofs.ParseRender
import Girc.Proofs.Tags
import Girc.Proofs.ParseTotal
import Girc.Proofs.ServerTime
import Girc.Gen.Facts
/-
  C02 — the parser conforms to the grammar and is total. Property theorems only.
-/
namespace Girc.Props.C02
open Girc Girc.Model Girc.Spec

/-- Every line generated by the grammar — 0..15 params, any SPACE run lengths between them, optional
    trailing, any subset of tags/source, any letter case of the command, with or without CRLF —
    parses to exactly the structure the grammar assigns. -/
theorem parse_render (l : Line) (h : wfLine l = true) : parseEvent (render l) = some (meaning l) :=
  Proofs.ParseRender.parse_render l h

/-- Tag values read through `Tags.Get` are the IRCv3 unescaping of the last duplicate. -/
theorem get_unescaped (l : Line) (h : wfLine l = true) (ts : List (Bytes × Option Bytes)) (hts : l.tags = some ts) (k : Bytes) :
    tagsGet (meaning l).tags k =
      (ts.reverse.find? (fun t => t.1 == k)).map (fun t => tagDecode (t.2.getD [])) := by
  simp [meaning, hts, tagsGet, Proofs.Tags.meaningTags_get, Option.map_map, Function.comp_def]

theorem decode_is_unescape (v : Bytes) (h : escapesDefined v = true) : tagDecode v = unescape v := by
  open Proofs.Tags in
  fun_induction tagDecode v with
  | case1 => rfl
  | case2 b => simp [unescape]
  | case3 c rest d hd ih =>
    rcases tagUnesc_cases c rest with ⟨d', hd', hu⟩ | ⟨_, hf⟩
    · cases hd.symm.trans hd'
      rw [escapesDefined.eq_1, Bool.and_eq_true] at h
      rw [hu, ih h.2]
    · rw [hf] at h; cases h
  | case4 c rest hd ih =>
    rcases tagUnesc_cases c rest with ⟨d', hd', _⟩ | ⟨_, hf⟩
    · cases hd.symm.trans hd'
    · rw [hf] at h; cases h
  | case5 b c rest hb ih =>
    rw [escapesDefined_ne b _ hb] at h
    rw [unescape_ne b _ hb, ih h]

/-- Totality: on arbitrary byte strings the parser — with every Go index and slice expression an
    explicitly checked operation — never faults and returns nil or an event. -/
theorem total (raw : Bytes) : ∃ r, parseEventGo raw = .ok r ∧ r = parseEvent raw :=
  ⟨_, Proofs.ParseTotal.goTop_eq raw, rfl⟩

/-! Non-vacuity -/
def sampleLine : Line :=
  { tags := some [([0x61], some [0x5C, 0x73]), ([0x62], none), ([0x61], some [0x78])]
    pfx := some ⟨[0x6E], some [0x75], some [0x68]⟩
    command := [0x70, 0x72]
    middles := [(2, [0x23, 0x63]), (0, [0x61, 0x09, 0x62])]
    trailing := some (1, [0x3A, 0x20, 0x68, 0x69])
    ending := 2 }
example : wfLine sampleLine = true := by decide
example : (meaning sampleLine).params = [[0x23, 0x63], [0x61, 0x09, 0x62], [0x3A, 0x20, 0x68, 0x69]] := by decide

/-! ### "a valid server-time tag becomes the event timestamp"
    `Model/ServerTime.lean` models `time.Parse` for the one layout the library uses. -/

/-- The layout the model is written for is the layout in the source (regenerated on every run). -/
theorem gen_server_time_layout : Gen.str_capServerTimeFormat = "2006-01-02T15:04:05.999Z".toUTF8.toList := by decide +kernel

open Girc.Model.ServerTime in
/-- Every valid instant (years 0000–9999, real calendar days incl. leap days, millisecond precision)
    written in the IRCv3 server-time format parses back to exactly that instant. -/
theorem server_time_roundtrip (c : Civil) (h : c.valid = true) (hms : c.nanos % 1000000 = 0) :
    Girc.Model.ServerTime.parse (render c) = some c := Proofs.ServerTime.parse_render c h hms

open Girc.Model.ServerTime in
/-- Whatever is accepted is a real calendar instant; anything else leaves the local receive time. -/
theorem server_time_valid (s : Bytes) (c : Civil) (h : Girc.Model.ServerTime.parse s = some c) : c.valid = true :=
  by
  unfold Girc.Model.ServerTime.parse at h
  split at h
  · split at h
    · cases h; assumption
    · cases h
  · cases h

open Girc.Model.ServerTime in
/-- The instant is counted from the Unix epoch day by day: 0 at 1970-01-01, +1 from each day to the
    next across month ends, leap days and year ends; the time of day stays within its day. -/
theorem server_time_day_count :
    daysFromCivil 1970 1 1 = 0 ∧
    (∀ y m d, 1 ≤ m ∧ m ≤ 12 → 1 ≤ d ∧ d < daysIn m y → daysFromCivil y m (d + 1) = daysFromCivil y m d + 1) ∧
    (∀ y m, 1 ≤ m ∧ m < 12 → daysFromCivil y (m + 1) 1 = daysFromCivil y m (daysIn m y) + 1) ∧
    (∀ y, daysFromCivil (y + 1) 1 1 = daysFromCivil y 12 31 + 1) ∧
    (∀ c : Civil, c.valid = true →
      daysFromCivil c.year c.month c.day * 86400 ≤ c.unixSeconds ∧
      c.unixSeconds < (daysFromCivil c.year c.month c.day + 1) * 86400) :=
  open Proofs.ServerTime in by
  refine ⟨by decide, ?_, days_next_month, ?_, ?_⟩
  · intro y m d _ _
    rw [daysFromCivil_eq, daysFromCivil_eq]
    omega
  · intro y
    have e1 : monthDays 1 = 306 := rfl
    have e2 : monthDays 12 = 275 := rfl
    rw [daysFromCivil_eq, daysFromCivil_eq, if_pos (by omega), if_neg (by omega), e1, e2]
    have : ((y + 1 : Nat) : Int) - 1 = y := by omega
    rw [this]
    omega
  · intro c h
    simp [Civil.valid] at h
    unfold Civil.unixSeconds
    omega

example : (Girc.Model.ServerTime.parse "2024-02-29T23:59:59.999Z".toUTF8.toList).map (·.unixSeconds) = some 1709251199 := by
  decide +kernel

end Girc.Props.C02
