import Girc.Proofs.Format
import Girc.Gen.Facts
/- C20 — formatting helpers are compositional. Property theorems only. -/
namespace Girc.Props.C20
open Girc Girc.Model Girc.Spec

/-- Tie: the tables regenerated from format.go on this run are the documented ones. -/
theorem gen_colors : Gen.map_fmtColors = Spec.colors := by decide
theorem gen_codes : Gen.map_fmtCodes = Spec.codes := by decide
theorem gen_fmt_open : ∀ b : Byte, Gen.Fmt_bp0 b = (b == LBRACE) := by decide +kernel
theorem gen_fmt_inner : ∀ b : Byte, Gen.Fmt_bp1 b = !Model.fmtInner b := by decide +kernel
theorem gen_braces : Gen.const_fmtOpenChar = 0x7B ∧ Gen.const_fmtCloseChar = 0x7D := by decide

theorem fmt_compositional (items : List Item) (h : items.all wfItem = true) : fmt (src items) = out items :=
  Proofs.Format.fmt_compositional items h
theorem fmt_id (t : Bytes) (h : braceFree t = true) : fmt t = t := Proofs.Format.fmt_id t h
theorem trimfmt_exact (order : List Bytes) (hperm : order.Perm tokenNames) (items : List Item)
    (h : items.all wfItem = true) :
    trimFmt order (src items) = src (items.filter (fun it => !isLowerToken it)) :=
  Proofs.Format.trimfmt_exact order hperm items h
theorem strip_clean (t : Bytes) : ∀ b ∈ stripRaw t, b ∉ codeBytes := Proofs.Format.strip_clean t
theorem strip_id (t : Bytes) (h : hasCodeByte t = false) : stripRaw t = t := Proofs.Format.strip_id t h
theorem strip_idem (t : Bytes) : stripRaw (stripRaw t) = stripRaw t := Proofs.Format.strip_idem t
theorem strip_fmt (items : List Item) (h : items.all wfItem = true) (hl : literalsCodeFree items = true)
    (hd : noDigitAfterColor items = true) : stripRaw (fmt (src items)) = literals items :=
  Proofs.Format.strip_fmt items h hl hd

/-! Non-vacuity: "{RED}{b}Hello {red,blue}World{c}" -/
def sample : List Item :=
  [.name [0x52, 0x45, 0x44], .name [0x62], .lit [0x48, 0x69, 0x20], .pair [0x72, 0x65, 0x64] [0x62, 0x6C, 0x75, 0x65],
   .lit [0x57], .name [0x63]]
example : sample.all wfItem = true := by decide +kernel
example : literalsCodeFree sample = true ∧ noDigitAfterColor sample = true := by decide +kernel
example : fmt (src sample) = [0x03, 0x30, 0x34, 0x02, 0x48, 0x69, 0x20, 0x03, 0x30, 0x34, 0x2C, 0x30, 0x32, 0x57, 0x03] := by decide +kernel
example : stripRaw (fmt (src sample)) = [0x48, 0x69, 0x20, 0x57] := by decide +kernel

end Girc.Props.C20
