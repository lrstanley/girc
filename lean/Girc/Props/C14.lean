import Girc.Proofs.Pure
import Girc.Proofs.ProtocolA
import Girc.Gen.Facts
/- C14 — CTCP encoding round-trips; reply discipline. Property theorems only. -/
namespace Girc.Props.C14
open Girc Girc.Model Girc.Spec Girc.Proofs.ProtocolA

theorem gen_tag_byte1 : ∀ b : Byte, Gen.DecodeCTCP_bp0 b = !Model.ctcpTagByte b := by decide +kernel
theorem gen_tag_byte2 : ∀ b : Byte, Gen.DecodeCTCP_bp1 b = !Model.ctcpTagByte b := by decide +kernel
theorem gen_parsecmd_byte : ∀ b : Byte, Gen.parseCMD_bp0 b = !Model.ctcpTagByte b := by decide +kernel
theorem gen_delim : Gen.const_ctcpDelim = 1 := by decide
theorem tag_byte_spec : ∀ b : Byte, Model.ctcpTagByte b = Spec.isUpperOrDigit b :=
  congrFun Proofs.PureAux.ctcpTagByte_funeq

/-- Decoding what the encoder produced returns the same command and text, for every command made
    of A–Z/0–9 and EVERY text (spaces, 0x01 bytes, empty), flagged as a reply exactly for NOTICE. -/
theorem decode_encode (c tgt cmd text : Bytes) (src : Option Source) (tags : Option Tags)
    (hc : c = PRIVMSG ∨ c = NOTICE) (hne : cmd ≠ []) (hcmd : Proofs.Pure.upperOrDigit cmd = true) :
    decodeCTCP { tags := tags, source := src, command := c, params := [tgt, encodeCTCPRaw cmd text] } =
      some ⟨src, cmd, text, c == NOTICE⟩ :=
by
  have henc : encodeCTCPRaw cmd text = ctcpDelim :: cmd ++ (if text.length > 0 then SP :: text else []) ++ [ctcpDelim] :=
    if_neg (by simpa using hne)
  have hcc : ((c != PRIVMSG) && (c != NOTICE)) = false := by
    rcases hc with rfl | rfl <;> decide
  have hall : cmd.all ctcpTagByte = true := Proofs.PureAux.ctcpTagByte_funeq ▸ hcmd
  rw [Proofs.PureAux.decodeCTCP_tag _ tgt cmd _ (Proofs.PureAux.sp_not_mem cmd hcmd) hne (congrArg ([tgt, ·]) henc)
    (by cases text <;> simp), hcc, hall, if_neg Bool.false_ne_true, if_pos rfl]
  cases text <;> rfl

theorem not_delimited (e : Event) (tgt p : Bytes) (hp : e.params = [tgt, p])
    (h : p.head? ≠ some ctcpDelim ∨ p.getLast? ≠ some ctcpDelim) : decodeCTCP e = none :=
by
  have hd : (p.head? != some ctcpDelim || p.getLast? != some ctcpDelim) = true := by
    rcases h with h | h <;> simp [h]
  simp only [decodeCTCP, hp, hd, if_true, ite_self]

theorem bad_tag (e : Event) (tgt tag rest : Bytes) (hsp : SP ∉ tag)
    (hp : e.params = [tgt, ctcpDelim :: tag ++ rest ++ [ctcpDelim]]) (hrest : rest = [] ∨ rest.head? = some SP)
    (hbad : ∃ b ∈ tag, Spec.isUpperOrDigit b = false) : decodeCTCP e = none :=
by
  obtain ⟨b, hb, hf⟩ := hbad
  rw [Proofs.PureAux.decodeCTCP_tag e tgt tag rest hsp (List.ne_nil_of_mem hb) hp hrest,
    Proofs.PureAux.all_false_of_bad hb hf]
  split <;> rfl

theorem wrong_shape (e : Event) (h : (e.command ≠ PRIVMSG ∧ e.command ≠ NOTICE) ∨ e.params.length ≠ 2) :
    decodeCTCP e = none := by
  unfold decodeCTCP
  split
  · rename_i tgt p hp
    rcases h with ⟨h1, h2⟩ | h
    · simp [h1, h2]
    · simp [hp] at h
  · rfl

example : decodeCTCP { command := PRIVMSG, params := [[0x23], encodeCTCPRaw [0x50, 0x49] [0x61, 0x20, 0x01, 0x62]] }
    = some ⟨none, [0x50, 0x49], [0x61, 0x20, 0x01, 0x62], false⟩ := by decide

/-! ### Reply discipline -/

/-- Every automatic answer is a NOTICE to the (folded) requester, produced only for a request
    (not a reply) that carries a source, and never for ACTION. -/
theorem reply_discipline (cfg : Cfg) (ev : CTCPEvent) (time idle : Bytes) :
    ∀ o ∈ ctcpCall cfg ev time idle,
      ev.reply = false ∧ ev.command ≠ tACTION ∧
      ∃ src typ msg, ev.source = some src ∧ typ ≠ [] ∧
        o = Out.send { command := NOTICE, params := [fold src.name, encodeCTCPRaw typ msg] } :=
  Proofs.ProtocolA.reply_discipline cfg ev time idle

/-- At the level of received events: CTCP answers come only from PRIVMSG events. -/
theorem replies_only_to_privmsg (cfg : Cfg) (e : Event) (ev : CTCPEvent) (time idle : Bytes)
    (hd : decodeCTCP e = some ev) (hne : ctcpCall cfg ev time idle ≠ []) :
    e.command = PRIVMSG ∧ e.source.isSome :=
  Proofs.ProtocolA.replies_only_to_privmsg cfg e ev time idle hd hne

/-- No reply loop: whatever a client answers automatically, received by ANY client (any
    configuration, as a NOTICE from anyone), triggers no automatic answer. -/
theorem no_reply_loop (cfg cfg' : Cfg) (ev : CTCPEvent) (time idle time' idle' : Bytes) :
    ∀ o ∈ ctcpCall cfg ev time idle, ∀ reply, o = Out.send reply →
      ∀ (src' : Option Source) (tags' : Option Tags) (ev' : CTCPEvent),
        decodeCTCP { reply with source := src', tags := tags' } = some ev' →
        ctcpCall cfg' ev' time' idle' = [] :=
  Proofs.ProtocolA.no_reply_loop cfg cfg' ev time idle time' idle'

end Girc.Props.C14
