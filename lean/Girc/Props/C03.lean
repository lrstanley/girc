import Girc.Proofs.Serialize
import Girc.Gen.Skel
import Girc.Spec.Skeletons
/-
  C03 — one event is exactly one wire line. Property theorems only.
-/
namespace Girc.Props.C03
open Girc Girc.Model Girc.Spec

/-- For EVERY event — any bytes in any field — the serialised event contains no CR and no LF. -/
theorem no_crlf (e : Event) : CR ∉ eventBytes e ∧ LF ∉ eventBytes e := by
  constructor <;> intro h <;> simp [eventBytes, List.mem_filter, isCRLF] at h

/-- What `sendLoop`/`encode` put on the wire: the bytes, then CR LF. -/
def wire (e : Event) : Bytes := eventBytes e ++ [CR, LF]

/-- `wire` is what the code in the tree does (regenerated on every run): `sendLoop` hands every event to `encode`, which
    writes `Bytes()`, then the two-byte terminator, then flushes — nothing is cut, padded or merged in between. -/
theorem skel_wire : Gen.skel_sendLoop = Spec.Skel.skel_sendLoop ∧ Gen.skel_ircConn_encode = Spec.Skel.skel_ircConn_encode :=
  ⟨rfl, rfl⟩

/-- Exactly one line: the only CR/LF bytes of the wire form are the two terminating ones. -/
theorem one_line (e : Event) :
    ∃ body, wire e = body ++ [CR, LF] ∧ CR ∉ body ∧ LF ∉ body :=
  ⟨eventBytes e, rfl, (no_crlf e).1, (no_crlf e).2⟩

theorem command_preserved (e : Event) (hc : singleToken e.command = true)
    (hs : ∀ s, e.source = some s → noSpace s.name = true ∧ noSpace s.ident = true ∧ noSpace s.host = true)
    (ht : ∀ t, e.tags = some t → ∀ p ∈ t, noSpace p.1 = true ∧ noSpace p.2 = true) :
    lineCommand (eventBytes e) = e.command := Proofs.Serialize.command_preserved e hc hs ht

theorem len_ge (e : Event) : (eventBytes e).length ≤ eventLen e := Proofs.Serialize.len_ge e

theorem len_eq (e : Event) (h : cleanEvent e = true) : eventLen e = (eventBytes e).length :=
  Proofs.Serialize.len_eq e h

/-! Non-vacuity / regression witnesses -/
example : eventBytes { command := [0x58], params := [[0x61, 0x0D, 0x0A, 0x51]] } = [0x58, 0x20, 0x61, 0x51] := by decide
example : eventLen { command := [0x58], tags := some [] } = 1 := by decide   -- F3 repaired
example : cleanEvent { command := [0x58], params := [[0xC3, 0xA9]] } = true := by decide

end Girc.Props.C03
