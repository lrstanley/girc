import Girc.Proofs.Pure
import Girc.Gen.Facts
/- C18 — the command handler runs exactly the addressed command. Property theorems only. -/
namespace Girc.Props.C18
open Girc Girc.Model

/-- Tie: the two regular expressions in cmdhandler/cmd.go are the ones the hand matchers implement:
    `^%s([a-z0-9-_]{1,20})(?: (.*))?$` and `^[a-z0-9-_]{1,20}$`. -/
theorem gen_cmdMatch : Gen.str_cmdMatch = [0x5E, 0x25, 0x73, 0x28, 0x5B, 0x61, 0x2D, 0x7A, 0x30, 0x2D, 0x39, 0x2D, 0x5F, 0x5D, 0x7B, 0x31, 0x2C, 0x32, 0x30, 0x7D, 0x29, 0x28, 0x3F, 0x3A, 0x20, 0x28, 0x2E, 0x2A, 0x29, 0x29, 0x3F, 0x24] := by decide
theorem gen_validName : Gen.str_validName = [0x5E, 0x5B, 0x61, 0x2D, 0x7A, 0x30, 0x2D, 0x39, 0x2D, 0x5F, 0x5D, 0x7B, 0x31, 0x2C, 0x32, 0x30, 0x7D, 0x24] := by decide

theorem name_byte_spec : ∀ b : Byte, cmdNameByte b =
    ((0x61 ≤ b && b ≤ 0x7A) || (0x30 ≤ b && b ≤ 0x39) || b = 0x2D || b = 0x5F) := by decide +kernel

theorem matchCmd_iff (pfx text name rest : Bytes) :
    matchCmd pfx text = some (name, rest) ↔
      validCmdName name = true ∧ LF ∉ rest ∧
      (text = pfx ++ name ∧ rest = [] ∨ text = pfx ++ name ++ SP :: rest) :=
  Proofs.Pure.matchCmd_iff pfx text name rest

theorem invoke_iff (pfx : Bytes) (tbl : CmdTable) (e : Event) (id : Nat) (args : List Bytes) (raw : Bytes) :
    cmdExecute pfx tbl e = .invoke id args raw ↔
      e.source.isSome ∧ e.command = PRIVMSG ∧
      ∃ name c, matchCmd pfx (e.params.getLastD []) = some (name, raw) ∧ name ≠ HELP ∧
        AMap.get? tbl name = some c ∧ c.id = id ∧
        args = (if raw.isEmpty then [] else splitOnByte SP raw) ∧ c.minArgs ≤ (args.length : Int) :=
by
  constructor
  · intro h
    obtain ⟨hs, hc, name, raw', c, args', hargs, hm, hn, hget, hact⟩ :=
      Proofs.Pure.cmdExecute_command pfx tbl e _ h nofun (fun _ => nofun)
    split at hact <;> cases hact
    exact ⟨hs, hc, name, c, hm, hn, hget, rfl, hargs, Int.not_lt.mp ‹_›⟩
  · rintro ⟨hs, hc, name, c, hm, hn, hget, rfl, rfl, hmin⟩
    rw [Proofs.PureAux.cmdExecute_match pfx tbl e name raw hs hc hm hn, hget]
    exact if_neg (Int.not_lt.mpr hmin)

theorem usage_iff (pfx : Bytes) (tbl : CmdTable) (e : Event) (name : Bytes) :
    cmdExecute pfx tbl e = .usage name ↔
      e.source.isSome ∧ e.command = PRIVMSG ∧
      ∃ raw c, matchCmd pfx (e.params.getLastD []) = some (name, raw) ∧ name ≠ HELP ∧
        AMap.get? tbl name = some c ∧
        (((if raw.isEmpty then [] else splitOnByte SP raw).length : Int) < c.minArgs) :=
by
  constructor
  · intro h
    obtain ⟨hs, hc, name', raw, c, args, hargs, hm, hn, hget, hact⟩ :=
      Proofs.Pure.cmdExecute_command pfx tbl e _ h nofun (fun _ => nofun)
    split at hact <;> cases hact
    exact ⟨hs, hc, raw, c, hm, hn, hget, hargs ▸ ‹_›⟩
  · rintro ⟨hs, hc, raw, c, hm, hn, hget, hlt⟩
    rw [Proofs.PureAux.cmdExecute_match pfx tbl e name raw hs hc hm hn, hget]
    exact if_pos hlt

theorem nothing_else (pfx : Bytes) (tbl : CmdTable) (e : Event)
    (h : e.source = none ∨ e.command ≠ PRIVMSG ∨ matchCmd pfx (e.params.getLastD []) = none ∨
         (∃ name raw, matchCmd pfx (e.params.getLastD []) = some (name, raw) ∧ name ≠ HELP ∧ AMap.get? tbl name = none)) :
    cmdExecute pfx tbl e = .none := by
  rcases h with h | h | h | ⟨name, raw, hm, hn, hget⟩
  · exact Proofs.PureAux.cmdExecute_guard pfx tbl e (by simp [h])
  · exact Proofs.PureAux.cmdExecute_guard pfx tbl e (by simp [h])
  · exact Proofs.PureAux.cmdExecute_nomatch pfx tbl e h
  · by_cases hg : e.source.isSome ∧ e.command = PRIVMSG
    · rw [Proofs.PureAux.cmdExecute_match pfx tbl e name raw hg.1 hg.2 hm hn, hget]
    · exact Proofs.PureAux.cmdExecute_guard pfx tbl e hg

theorem add_result (tbl : CmdTable) (cmd : Command) :
    let name := toLowerAscii cmd.name
    let aliases := cmd.aliases.map toLowerAscii
    ((cmdAdd tbl cmd).2 = .invalidName ↔ (validCmdName name = false ∨ ∃ a ∈ aliases, validCmdName a = false)) ∧
    ((cmdAdd tbl cmd).2 = .duplicateName → AMap.contains tbl name = true ∧ (cmdAdd tbl cmd).1 = tbl) ∧
    ((cmdAdd tbl cmd).2 = .ok → ∀ n ∈ name :: aliases, ∃ c, AMap.get? (cmdAdd tbl cmd).1 n = some c ∧ c.id = cmd.id) :=
by
  intro name aliases
  have h := Proofs.PureAux.cmdAdd_result tbl name aliases _ (cmdAdd tbl cmd) rfl
  exact ⟨h.1, h.2.1, fun hr n hn => ⟨_, h.2.2 hr n hn, rfl⟩⟩

/-- "!say a  b" with prefix "!": invoked with args ["a","","b"] (split on single spaces). -/
example : cmdExecute [0x21] (cmdAdd [] ⟨[0x73, 0x61, 0x79], [], 1, false, 7⟩).1
    { source := some ⟨[0x6E], [], []⟩, command := PRIVMSG, params := [[0x23], [0x21, 0x73, 0x61, 0x79, 0x20, 0x61, 0x20, 0x20, 0x62]] }
    = .invoke 7 [[0x61], [], [0x62]] [0x61, 0x20, 0x20, 0x62] := by decide

end Girc.Props.C18
