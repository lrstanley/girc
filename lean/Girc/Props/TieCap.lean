import Girc.Proofs.TransCap
/-
  Tie (TieCap, C08): cap.go `parseCap` regenerated from the Go source equals the model `parseCap` of Model/Cap.lean (what the
  capability-negotiation theorems of C08 parse the server's CAP LS / NEW lists with) for ALL inputs.  The Go function builds a
  `map[string]map[string]string` with nested assignments `out[a][b] = v`; the generated code treats the inner maps as values
  and writes them back (TRANSLATOR_NOTES §2.13).  `possibleCapList` is NOT translated (see the notes).
-/
namespace Girc.Props.TieCap
open Girc Girc.Model Girc.Gen

theorem tie_parseCap : ∀ raw : Bytes, Fn.parseCap raw = .ok (some (parseCap raw)) := fun raw => by
  have := Proofs.Trans.parseCap_loop1_eq (splitOnByte 0x20 raw) 0 [] 0 (Nat.zero_le _)
  rw [Int.natCast_zero] at this
  simp only [gosem, Fn.parseCap, parseCap, Go.split_one, this, List.drop_zero, show SP = 0x20 from rfl]
-- "a sts=p=6,x b=": a ↦ nil, sts ↦ {p: 6, x: ""}, b ↦ {"": ""}
example : Fn.parseCap [0x61, 0x20, 0x73, 0x74, 0x73, 0x3D, 0x70, 0x3D, 0x36, 0x2C, 0x78, 0x20, 0x62, 0x3D] =
    .ok (some [([0x61], none), ([0x73, 0x74, 0x73], some [([0x70], [0x36]), ([0x78], [])]), ([0x62], some [([], [])])]) := by rfl
-- "=x" (no name before '='): the whole token is the key, value nil
example : Fn.parseCap [0x3D, 0x78] = .ok (some [([0x3D, 0x78], none)]) := by rfl

end Girc.Props.TieCap
