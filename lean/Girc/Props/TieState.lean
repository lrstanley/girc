import Girc.Proofs.TransState
/-
  Tie (TieState, C05): the list helpers of state.go regenerated from the Go source (Girc/Gen/Funcs.lean) equal the hand-written
  models of Model/State.lean the tracker invariants of C05 are about, for ALL inputs.  Pointer receivers that are written
  through: the generated function returns the new pointee.  Proved from the loop lemmas of Girc/Proofs/TransBase.lean
  and TransState.lean.

  RESTRICTION (say-so): `u.Perms.set(name, Perms{})` in addChannel and `u.Perms.remove(name)` in deleteChannel are method
  calls on the `*UserPerms` object (a mutex + `map[string]Perms`), which is outside the translator's model; the two
  statements are ERASED (TRANSLATOR_NOTES §2.15) and the theorems cover every field of the user except `perms`.
-/
namespace Girc.Props.TieState
open Girc Girc.Model Girc.Gen

theorem tie_User_InChannel : ∀ (u : User) (name : Bytes), Fn.User_InChannel (some u) name = .ok (u.inChannel name) :=
  Proofs.Trans.User_InChannel_eq
theorem tie_User_addChannel : ∀ (u : User) (name : Bytes),
    Fn.User_addChannel (some u) name = .ok (some { u.addChannel name with perms := u.perms }) := fun u name => by
  simp only [gosem, Fn.User_addChannel, User.addChannel, Proofs.Trans.User_InChannel_eq,
    Proofs.Trans.ToRFC1459_eq]
  cases u.inChannel name <;> rfl
theorem tie_User_deleteChannel : ∀ (u : User) (name : Bytes),
    Fn.User_deleteChannel (some u) name = .ok (some { u.deleteChannel name with perms := u.perms }) :=
  open Proofs.Trans Go in fun u name => by
  have hl := forFirst u.chans (Fn.User_deleteChannel_loop1 (some u) (fold name)) (· == fold name)
    (fun fuel j => by simp only [gosem, Fn.User_deleteChannel_loop1])
    (fun fuel n j x hn hx => by simp only [gosem, Fn.User_deleteChannel_loop1, decide_lt_len hn, atL_ofNat hx])
    (-1)
  simp only [gosem, Fn.User_deleteChannel, User.deleteChannel, eraseFirst, ToRFC1459_eq, hl, erase_eq_of_findIdx?]
  cases hj : u.chans.findIdx? (· == fold name) with
  | none => rfl
  | some d =>
    have hd := findIdx?_lt hj
    simp only [gosem, show ((d : Int) != -1) = true from bne_iff_ne.mpr (by omega),
      sliceL_fromZero u.chans d rfl (Nat.le_of_lt hd), sliceL_toEnd u.chans (d + 1) (Int.natCast_succ d).symm hd]
theorem tie_Channel_UserIn : ∀ (c : Channel) (nick : Bytes), Fn.Channel_UserIn (some c) nick = .ok (c.userIn nick) :=
  Proofs.Trans.Channel_UserIn_eq
theorem tie_Channel_addUser : ∀ (c : Channel) (nick : Bytes), Fn.Channel_addUser (some c) nick = .ok (some (c.addUser nick)) :=
  fun c nick => by
  simp only [gosem, Fn.Channel_addUser, Channel.addUser, Proofs.Trans.Channel_UserIn_eq,
    Proofs.Trans.ToRFC1459_eq]
  cases c.userIn nick <;> rfl
theorem tie_Channel_deleteUser : ∀ (c : Channel) (nick : Bytes),
    Fn.Channel_deleteUser (some c) nick = .ok (some (c.deleteUser nick)) := open Proofs.Trans Go in fun c nick => by
  have hl := forFirst c.users (Fn.Channel_deleteUser_loop1 (some c) (fold nick)) (· == fold nick)
    (fun fuel j => by simp only [gosem, Fn.Channel_deleteUser_loop1])
    (fun fuel n j x hn hx => by simp only [gosem, Fn.Channel_deleteUser_loop1, decide_lt_len hn, atL_ofNat hx])
    (-1)
  simp only [gosem, Fn.Channel_deleteUser, Channel.deleteUser, eraseFirst, ToRFC1459_eq, hl, erase_eq_of_findIdx?]
  cases hj : c.users.findIdx? (· == fold nick) with
  | none => rfl
  | some d =>
    have hd := findIdx?_lt hj
    simp only [gosem, show ((d : Int) != -1) = true from bne_iff_ne.mpr (by omega),
      sliceL_fromZero c.users d rfl (Nat.le_of_lt hd), sliceL_toEnd c.users (d + 1) (Int.natCast_succ d).symm hd]
theorem tie_User_nil : ∀ name : Bytes, Fn.User_InChannel none name = .error .nilDeref ∧
    Fn.User_addChannel none name = .error .nilDeref ∧ Fn.User_deleteChannel none name = .error .nilDeref := fun name => by
  refine ⟨?_, ?_, ?_⟩ <;>
    simp [Fn.User_InChannel, Fn.User_addChannel, Fn.User_deleteChannel, Proofs.Trans.ToRFC1459_eq, bind, Except.bind]

-- "#B" is added (folded, sorted before "#c"); "#C" is found case-insensitively and removed
example : (Fn.User_addChannel (some { nick := [0x6E], chans := [[0x23, 0x63]] }) [0x23, 0x42]).map (fun r => r.map (·.chans)) =
    .ok (some [[0x23, 0x62], [0x23, 0x63]]) := by rfl
example : (Fn.User_deleteChannel (some { nick := [0x6E], chans := [[0x23, 0x62], [0x23, 0x63]] }) [0x23, 0x43]).map
    (fun r => r.map (·.chans)) = .ok (some [[0x23, 0x62]]) := by rfl
example : Fn.User_InChannel (some { nick := [0x6E], chans := [[0x23, 0x62]] }) [0x23, 0x42] = .ok true := by rfl
example : (Fn.Channel_addUser (some { name := [0x23], users := [[0x62]], modes := newCModes [] [] }) [0x41]).map
    (fun r => r.map (·.users)) = .ok (some [[0x61], [0x62]]) := by rfl
example : (Fn.Channel_deleteUser (some { name := [0x23], users := [[0x61], [0x62]], modes := newCModes [] [] }) [0x42]).map
    (fun r => r.map (·.users)) = .ok (some [[0x61]]) := by rfl

end Girc.Props.TieState
