import Girc.Model.Heap
import Girc.Gen.Facts
/-
  C13 — state getters return isolated snapshots. Property theorems only.
  Trusted (Go semantics): code can write only through references it holds; allocation returns a
  location no live object refers to. The theorems: with the copy facts of the current source every
  reference-typed field of a snapshot is freshly allocated, hence (a) writing through ANY reference of
  the snapshot never changes what a tracked object means, and (b) writing through any reference that
  existed when the snapshot was taken (or was allocated later) never changes what the snapshot means.
-/
namespace Girc.Props.C13
open Girc Girc.Model

/-! ### Tie to the source -/

/-- The reference-typed fields of the four types are exactly these (a new slice/map/pointer field
    would change the regenerated field list and break this obligation). -/
theorem gen_user_ref_fields : (Gen.fields_User.filter (fun f => f.2 != [0x76, 0x61, 0x6C, 0x75, 0x65])).map (·.1) =
    [[0x43, 0x68, 0x61, 0x6E, 0x6E, 0x65, 0x6C, 0x4C, 0x69, 0x73, 0x74], [0x50, 0x65, 0x72, 0x6D, 0x73]] := by decide
theorem gen_channel_ref_fields : (Gen.fields_Channel.filter (fun f => f.2 != [0x76, 0x61, 0x6C, 0x75, 0x65])).map (·.1) =
    [[0x55, 0x73, 0x65, 0x72, 0x4C, 0x69, 0x73, 0x74], [0x4D, 0x6F, 0x64, 0x65, 0x73]] := by decide
theorem gen_cmodes_ref_fields : (Gen.fields_CModes.filter (fun f => f.2 != [0x76, 0x61, 0x6C, 0x75, 0x65])).map (·.1) =
    [[0x6D, 0x6F, 0x64, 0x65, 0x73]] := by decide
theorem gen_userperms_ref_fields : (Gen.fields_UserPerms.filter (fun f => f.2 != [0x76, 0x61, 0x6C, 0x75, 0x65])).map (·.1) =
    [[0x63, 0x68, 0x61, 0x6E, 0x6E, 0x65, 0x6C, 0x73]] := by decide
/-- Every one of them is assigned a fresh allocation (`make(…)` or a nested `.Copy()`) in the Copy methods. -/
theorem gen_copy_user_fresh : Gen.copyFresh_User = [[0x43, 0x68, 0x61, 0x6E, 0x6E, 0x65, 0x6C, 0x4C, 0x69, 0x73, 0x74], [0x50, 0x65, 0x72, 0x6D, 0x73]] := by decide
theorem gen_copy_channel_fresh : Gen.copyFresh_Channel = [[0x4D, 0x6F, 0x64, 0x65, 0x73], [0x55, 0x73, 0x65, 0x72, 0x4C, 0x69, 0x73, 0x74]] := by decide
theorem gen_copy_cmodes_fresh : Gen.copyFresh_CModes = [[0x6D, 0x6F, 0x64, 0x65, 0x73]] := by decide
theorem gen_copy_userperms_fresh : Gen.copyFresh_UserPerms = [[0x63, 0x68, 0x61, 0x6E, 0x6E, 0x65, 0x6C, 0x73]] := by decide
/-- The four getters return `.Copy()` of what they look up. -/
theorem gen_getters_copy : Gen.getterCopies.all (·.2) = true ∧ Gen.getterCopies.length = 4 := by decide

/-! ### The copy is faithful and does not disturb the original -/

theorem copyUser_abs (f1 f2 : Bool) (h : Heap) (u : UserObj) (hb : u.below h.next) :
    (copyUser f1 f2 h u).2.abs (copyUser f1 f2 h u).1 = u.abs h ∧ u.abs (copyUser f1 f2 h u).1 = u.abs h := by
  obtain ⟨h1, h2⟩ := hb
  cases f1 <;> cases f2 <;>
    simp [copyUser, UserObj.abs, List.take_take] <;> (try constructor) <;>
    (try simp [Nat.ne_of_lt h1]) <;> omega

theorem copyChannel_abs (f1 f2 : Bool) (h : Heap) (c : ChanObj) (hb : c.below h.next) :
    (copyChannel f1 f2 h c).2.abs (copyChannel f1 f2 h c).1 = c.abs h ∧ c.abs (copyChannel f1 f2 h c).1 = c.abs h := by
  obtain ⟨h1, h2⟩ := hb
  cases f1 <;> cases f2 <;>
    simp [copyChannel, ChanObj.abs, List.take_take] <;> (try constructor) <;>
    (try simp [Nat.ne_of_lt h1, Nat.ne_of_lt h2, Nat.ne_of_lt (Nat.lt_succ_of_lt h2)]) <;> omega

/-! ### Freshness: with the facts of the current source, no reference of the snapshot existed before -/

private theorem copyUser_tt_chanList (h : Heap) (u : UserObj) :
    (copyUser true true h u).2.chanList = h.next := rfl
private theorem copyUser_tt_perms (h : Heap) (u : UserObj) :
    (copyUser true true h u).2.perms = h.next + 1 := rfl
private theorem copyUser_tt_next (h : Heap) (u : UserObj) :
    (copyUser true true h u).1.next = h.next + 1 + 1 := rfl
private theorem copyChannel_tt_userList (h : Heap) (c : ChanObj) :
    (copyChannel true true h c).2.userList = h.next := rfl
private theorem copyChannel_tt_modeList (h : Heap) (c : ChanObj) :
    (copyChannel true true h c).2.modeList = h.next + 1 := rfl
private theorem copyChannel_tt_next (h : Heap) (c : ChanObj) :
    (copyChannel true true h c).1.next = h.next + 1 + 1 := rfl

theorem copyUser_fresh (h : Heap) (u : UserObj) :
    h.next ≤ (copyUser true true h u).2.chanList ∧ h.next ≤ (copyUser true true h u).2.perms ∧
    (copyUser true true h u).2.below (copyUser true true h u).1.next := by
  simp only [UserObj.below, copyUser_tt_chanList, copyUser_tt_perms, copyUser_tt_next]; unfold Loc at *; omega

theorem copyChannel_fresh (h : Heap) (c : ChanObj) :
    h.next ≤ (copyChannel true true h c).2.userList ∧ h.next ≤ (copyChannel true true h c).2.modeList ∧
    (copyChannel true true h c).2.below (copyChannel true true h c).1.next := by
  simp only [ChanObj.below, copyChannel_tt_userList, copyChannel_tt_modeList, copyChannel_tt_next]; unfold Loc at *; omega

/-! ### Frame: a write that does not go through a reference of the object cannot change it -/

theorem user_frame (h : Heap) (u : UserObj) (w : Write) (hw : ¬ u.owns w) : u.abs (h.write w) = u.abs h := by
  cases w with
  | str l v => simp only [UserObj.owns] at hw; simp [UserObj.abs, Heap.write, Ne.symm hw]
  | perm l v => simp only [UserObj.owns] at hw; simp [UserObj.abs, Heap.write, Ne.symm hw]
  | mode l v => simp [UserObj.abs, Heap.write]

theorem chan_frame (h : Heap) (c : ChanObj) (w : Write) (hw : ¬ c.owns w) : c.abs (h.write w) = c.abs h := by
  cases w with
  | str l v => simp only [ChanObj.owns] at hw; simp [ChanObj.abs, Heap.write, Ne.symm hw]
  | perm l v => simp [ChanObj.abs, Heap.write]
  | mode l v => simp only [ChanObj.owns] at hw; simp [ChanObj.abs, Heap.write, Ne.symm hw]

/-- A run of writes each of which leaves a reading of the heap alone leaves it alone. -/
private theorem foldl_write_frame {α : Type} (abs : Heap → α) (ws : List Write)
    (hws : ∀ w ∈ ws, ∀ h, abs (h.write w) = abs h) (h : Heap) : abs (ws.foldl Heap.write h) = abs h := by
  induction ws generalizing h with
  | nil => rfl
  | cons w rest ih =>
    rw [List.foldl_cons, ih (fun w' hw' => hws w' (List.mem_cons_of_mem _ hw')), hws w List.mem_cons_self]

/-- What an object allocated before `n` owns lies below `n`. -/
private theorem user_owns_below {u : UserObj} {n : Loc} (hb : u.below n) {w : Write} :
    u.owns w → match w with | .str l _ => l < n | .perm l _ => l < n | .mode l _ => l < n := by
  cases w with
  | str l v => exact fun ho => ho ▸ hb.1
  | perm l v => exact fun ho => ho ▸ hb.2
  | mode l v => exact False.elim

private theorem chan_owns_below {c : ChanObj} {n : Loc} (hb : c.below n) {w : Write} :
    c.owns w → match w with | .str l _ => l < n | .perm l _ => l < n | .mode l _ => l < n := by
  cases w with
  | str l v => exact fun ho => ho ▸ hb.1
  | perm l v => exact False.elim
  | mode l v => exact fun ho => ho ▸ hb.2

/-! ### Isolation, both directions, for every sequence of writes -/

/-- Writes through references that existed before the copy do not go through the snapshot. -/
theorem old_refs_not_owned_user (h : Heap) (u : UserObj) (w : Write)
    (hold : match w with | .str l _ => l < h.next | .perm l _ => l < h.next | .mode l _ => l < h.next) :
    ¬ (copyUser true true h u).2.owns w := by
  intro ho
  cases w with
  | str l v => exact Nat.lt_irrefl _ (copyUser_tt_chanList h u ▸ ho ▸ hold)
  | perm l v => exact Nat.lt_irrefl _ (Nat.lt_of_succ_lt (copyUser_tt_perms h u ▸ ho ▸ hold))
  | mode l v => exact ho

/-- (a) Modifying the returned object — any field, element, map entry or mode, any number of
    times — never changes what a tracked user means (hence nothing a later getter returns). -/
theorem mutate_user_snapshot_frame (h : Heap) (u live : UserObj) (hl : live.below h.next) (ws : List Write)
    (hws : ∀ w ∈ ws, (copyUser true true h u).2.owns w) :
    live.abs (ws.foldl Heap.write (copyUser true true h u).1) = live.abs (copyUser true true h u).1 :=
  foldl_write_frame (live.abs ·) ws (fun w hw h' => user_frame h' live w fun hlo =>
    old_refs_not_owned_user h u w (user_owns_below hl hlo) (hws w hw)) _

/-- (b) Later changes of the tracked state — writes through any reference that existed when the
    snapshot was taken, or was allocated afterwards — never alter the object already handed out. -/
theorem live_steps_user_snapshot_frame (h : Heap) (u : UserObj) (ws : List Write)
    (hws : ∀ w ∈ ws, ¬ (copyUser true true h u).2.owns w) :
    (copyUser true true h u).2.abs (ws.foldl Heap.write (copyUser true true h u).1) =
      (copyUser true true h u).2.abs (copyUser true true h u).1 :=
  foldl_write_frame ((copyUser true true h u).2.abs ·) ws (fun w hw h' => user_frame h' _ w (hws w hw)) _

theorem old_refs_not_owned_channel (h : Heap) (c : ChanObj) (w : Write)
    (hold : match w with | .str l _ => l < h.next | .perm l _ => l < h.next | .mode l _ => l < h.next) :
    ¬ (copyChannel true true h c).2.owns w := by
  intro ho
  cases w with
  | str l v => exact Nat.lt_irrefl _ (copyChannel_tt_userList h c ▸ ho ▸ hold)
  | perm l v => exact ho
  | mode l v => exact Nat.lt_irrefl _ (Nat.lt_of_succ_lt (copyChannel_tt_modeList h c ▸ ho ▸ hold))

theorem mutate_channel_snapshot_frame (h : Heap) (c live : ChanObj) (hl : live.below h.next) (ws : List Write)
    (hws : ∀ w ∈ ws, (copyChannel true true h c).2.owns w) :
    live.abs (ws.foldl Heap.write (copyChannel true true h c).1) = live.abs (copyChannel true true h c).1 :=
  foldl_write_frame (live.abs ·) ws (fun w hw h' => chan_frame h' live w fun hlo =>
    old_refs_not_owned_channel h c w (chan_owns_below hl hlo) (hws w hw)) _

theorem live_steps_channel_snapshot_frame (h : Heap) (c : ChanObj) (ws : List Write)
    (hws : ∀ w ∈ ws, ¬ (copyChannel true true h c).2.owns w) :
    (copyChannel true true h c).2.abs (ws.foldl Heap.write (copyChannel true true h c).1) =
      (copyChannel true true h c).2.abs (copyChannel true true h c).1 :=
  foldl_write_frame ((copyChannel true true h c).2.abs ·) ws (fun w hw h' => chan_frame h' _ w (hws w hw)) _

/-! ### The facts matter: the repaired defect, on the model -/

def h0 : Heap := { strArr := fun l => if l = 0 then [[0x23, 0x61]] else [], next := 2 }
def u0 : UserObj := { nick := [0x6E], ident := [], host := [], name := [], account := [], away := [], chanList := 0, chanLen := 1, perms := 1 }
/-- With the header merely copied (the old `*nu = *u; copy(nu.ChannelList, u.ChannelList)`), a write
    through the snapshot changes the tracked user. -/
example : (u0.abs (((copyUser false true h0 u0).1).write (.str (copyUser false true h0 u0).2.chanList [[0x58]]))).chans ≠ (u0.abs h0).chans := by
  decide
/-- With a fresh allocation it does not. -/
example : (u0.abs (((copyUser true true h0 u0).1).write (.str (copyUser true true h0 u0).2.chanList [[0x58]]))).chans = (u0.abs h0).chans := by
  decide

end Girc.Props.C13
