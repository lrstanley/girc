import Girc.Proofs.TransFormat
/-
  Tie (TieGlob): the function bodies regenerated from the Go source on every run (Girc/Gen/Funcs.lean, written by
  tools/extract/translate.go) equal the hand-written models the property theorems of C19 are about, for ALL inputs.
  Proved in Girc/Proofs/Trans*.lean or, where the proof is short, below the statement; each with a non-vacuity example
  that evaluates the generated function on a literal. An edit of the Go function changes Funcs.lean and the equivalence stops building.
-/
namespace Girc.Props.TieGlob
open Girc Girc.Model Girc.Gen

/-! ### format.go -/

theorem tie_Glob : ∀ input pat : Bytes, Fn.Glob input pat = .ok (glob input pat) := Proofs.Trans.Glob_eq
-- Glob("abcXdefYghi", "abc*def*ghi"), Glob("abcdef", "*x*")
example : Fn.Glob [0x61, 0x62, 0x63, 0x58, 0x64, 0x65, 0x66, 0x59, 0x67, 0x68, 0x69]
    [0x61, 0x62, 0x63, 0x2A, 0x64, 0x65, 0x66, 0x2A, 0x67, 0x68, 0x69] = .ok true := by rfl
example : Fn.Glob [0x61, 0x62, 0x63, 0x64, 0x65, 0x66] [0x2A, 0x78, 0x2A] = .ok false := by rfl

end Girc.Props.TieGlob
