import Girc.Proofs.TransState
/-
  Tie (TieSts): the function bodies regenerated from the Go source on every run (Girc/Gen/Funcs.lean, written by
  tools/extract/translate.go) equal the predicates of the timed STS model the theorems of C10 are about, for ALL inputs.
  They hold by evaluation and are proved below their statements; each with a non-vacuity example that evaluates the
  generated function on a literal. An edit of the Go function changes Funcs.lean and the equivalence stops building.
  `time.Now()` is the parameter `now` (integer nanoseconds).
-/
namespace Girc.Props.TieSts
open Girc Girc.Model Girc.Gen

/-! ### state.go -/

theorem tie_strictTransport_expired : ∀ (now : Int) (s : StrictTransport) (lf : Option Int),
    Fn.strictTransport_expired now (some s) = .ok (expiredAt now (tstsOf s lf)) :=
  fun _ _ _ => rfl
theorem tie_strictTransport_expired_nil : ∀ now : Int, Fn.strictTransport_expired now none = .error .nilDeref := fun _ => rfl
-- a 60-second policy received at t = 0: not expired 60.9 s later, expired after 61 s
example : Fn.strictTransport_expired 60900000000 (some { persistenceDuration := 60 }) = .ok false := by rfl
example : Fn.strictTransport_expired 61000000000 (some { persistenceDuration := 60 }) = .ok true := by rfl

theorem tie_strictTransport_enabled : ∀ s : StrictTransport,
    Fn.strictTransport_enabled (some s) = .ok (stsOf s).enabled := fun _ => rfl
theorem tie_strictTransport_enabled_nil : Fn.strictTransport_enabled none = .error .nilDeref := rfl
example : Fn.strictTransport_enabled (some { upgradePort := 6697 }) = .ok true := by rfl
example : Fn.strictTransport_enabled (some { upgradePort := -1 }) = .ok false := by rfl

theorem tie_strictTransport_reset : ∀ s : StrictTransport,
    ∃ s', Fn.strictTransport_reset (some s) = .ok (some s') ∧ stsOf s' = (stsOf s).reset ∧
      s'.persistenceReceived = s.persistenceReceived ∧ s'.lastFailed = s.lastFailed :=
  open Proofs.Trans Go in fun s => ⟨_, strictTransport_reset_go s, rfl, rfl, rfl⟩
theorem tie_strictTransport_reset_nil : Fn.strictTransport_reset none = .error .nilDeref := rfl
example : Fn.strictTransport_reset (some { upgradePort := 6697, persistenceDuration := 60, preload := true, persistenceReceived := 5 }) =
    .ok (some { upgradePort := -1, persistenceDuration := -1, preload := false, persistenceReceived := 5 }) := by rfl

/-- The policy drop of `newConn` on a failed dial, in terms of the generated predicate. -/
theorem tie_dialFail_generated : ∀ (now : Int) (s : StrictTransport) (lf : Option Int) (d b : Bool),
    Fn.strictTransport_expired now (some s) = .ok b →
    (tstep (tstsOf s lf) (.dialFail now d)).1.toSts = if b && !d then (stsOf s).reset else stsOf s :=
  open Proofs.Trans Go in fun now s lf d b hb => by
  rw [tie_strictTransport_expired now s lf] at hb
  injection hb with hb
  subst hb
  rfl

end Girc.Props.TieSts
