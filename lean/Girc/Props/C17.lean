import Girc.Proofs.ProtocolA
import Girc.Proofs.InvHandlers
import Girc.Gen.Skel
import Girc.Spec.Skeletons
/- C17 — PING is answered, nick collisions are retried. Property theorems only. -/
namespace Girc.Props.C17
open Girc Girc.Model Girc.Spec
open Girc.Proofs.ProtocolA

/-- The keep-alive helpers go through `write` (never through `Send`, i.e. never through the flood
    limiter), and the PING handler calls `Cmd.Pong` with the last parameter: the code the model's
    `Out.write` stands for is the code in the tree (regenerated on every run). -/
theorem skel_keepalive : Gen.skel_Cmd_Pong = Spec.Skel.skel_Cmd_Pong ∧ Gen.skel_Cmd_Ping = Spec.Skel.skel_Cmd_Ping ∧
    Gen.skel_handlePING = Spec.Skel.skel_handlePING := ⟨rfl, rfl, rfl⟩

/-- For every PING — any token, any state, tracking on or off — the client writes exactly one PONG
    with the same token, through `write` (never through the flood limiter). -/
theorem pong_exact (cfg : Cfg) (cs : CState) (e : Event) (time idle : Bytes) (hp : e.command = cPING) :
    ∃ cs', handleEvent cfg cs e time idle = .ok (cs', [Out.write { command := cPONG, params := [e.last] }]) :=
  Proofs.InvHandlers.ping_answered cfg cs e time idle hp

/-- A PONG carrying any clean token (with or without spaces, empty, colon-leading) parses back to
    exactly that token on the server side. -/
theorem pong_wire (tok : Bytes) (h : fieldOK tok = true) :
    ∃ e', parseEvent (eventBytes { command := cPONG, params := [tok] }) = some e' ∧
      e'.command = cPONG ∧ e'.params = [tok] := by
  have hwf : WFEvent { command := cPONG, params := [tok] } = true := by
    have h1 : wfCmd cPONG = true := by decide
    have h2 : 2 ≤ (rawBytes { command := cPONG, params := [tok] }).length := by
      simp [rawBytes, tagsWrite, tagsBytes, cPONG]
    simp only [WFEvent, h1, wfParams, h, Option.all_none, Bool.and_self, h2, decide_true]
  obtain ⟨e', hp, hc, hps, _⟩ := Proofs.Roundtrip.roundtrip_event _ hwf
  exact ⟨e', hp, hc, hps⟩

/-- Exactly one alternative per numeric, whatever else the line carries, before or after
    registration, with tracking on or off: by default the rejected nick with one more '_'. -/
theorem collision_default (cfg : Cfg) (cs : CState) (e : Event) (time idle : Bytes)
    (hc : isNickErr e.command = true) (hcb : cfg.nickCollide = .none) :
    ∃ cs', handleEvent cfg cs e time idle = .ok (cs', [Out.send (nickEvent (rejectedNick cfg cs.st e ++ [0x5F]))]) := by
  obtain ⟨h1, h2⟩ := nickErr_not_msg _ hc
  refine ⟨Proofs.ProtocolBAux.tagged cfg cs e, Proofs.ProtocolBAux.handleEvent_of_cmd cfg cs e time idle h1 h2 _ _ ?_⟩
  rw [handleCommand_nickErr cfg _ e hc, ← rejectedNick_tagged, nickCollision_none _ _ _ hcb]

/-- With a callback: its value, and nothing if it returns the empty string. -/
theorem collision_callback (cfg : Cfg) (cs : CState) (e : Event) (time idle : Bytes) (n : Bytes)
    (hc : isNickErr e.command = true) (hcb : cfg.nickCollide = .fixed n) :
    ∃ cs', handleEvent cfg cs e time idle = .ok (cs', if n.isEmpty then [] else [Out.send (nickEvent n)]) :=
  Proofs.ProtocolA.collision_callback cfg cs e time idle n hc hcb

/-- Successive collisions: nick_, nick__, … — each numeric names the previous proposal, the answer
    appends one more '_'; all proposals are valid nicks and pairwise distinct, so a rejected
    nickname is never proposed again. -/
theorem collision_progression (nick : Bytes) (hn : isValidNick nick = true) :
    (∀ k, isValidNick (proposal nick k) = true) ∧
    (∀ k, proposal nick k = nick ++ List.replicate k 0x5F) ∧
    (∀ i j, i ≠ j → proposal nick i ≠ proposal nick j) ∧
    (∀ (cfg : Cfg) (st : St) (k : Nat) (cl reason : Bytes), cfg.nickCollide = .none →
      nickCollision cfg st { command := c433, params := [cl, proposal nick k, reason] } =
        [Out.send (nickEvent (proposal nick (k + 1)))]) :=
  Proofs.ProtocolA.collision_progression nick hn

example : proposal [0x6D, 0x65] 3 = [0x6D, 0x65, 0x5F, 0x5F, 0x5F] := by decide +kernel

end Girc.Props.C17
