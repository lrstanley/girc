import Girc.Proofs.TransModes
/-
  Tie (TieModes): the function bodies regenerated from the Go source on every run (Girc/Gen/Funcs.lean, written by
  tools/extract/translate.go) equal the hand-written models the property theorems of C04 and C05 are about, for ALL inputs.
  Proved in Girc/Proofs/Trans*.lean or, where the proof is short, below the statement; each with a non-vacuity example
  that evaluates the generated function on a literal. An edit of the Go function changes Funcs.lean and the equivalence stops building.
-/
namespace Girc.Props.TieModes
open Girc Girc.Model Girc.Gen

/-! ### modes.go -/

theorem tie_IsValidChannelMode : ∀ s : Bytes, Fn.IsValidChannelMode s = .ok (isValidChannelMode s) :=
  open Proofs.Trans Go in fun raw => by
  unfold Fn.IsValidChannelMode isValidChannelMode
  cases raw with
  | nil => rfl
  | cons c r =>
    have e1 : decide (len (c :: r) < 1) = false := decide_eq_false (by simp only [len, List.length_cons]; omega)
    have e2 : decide ((c :: r).length ≥ 1) = true := decide_eq_true (Nat.le_add_left 1 _)
    simp only [gosem, e1, e2, IsValidChannelMode_loop1_eq, Bool.true_and]
    cases (c :: r).all chanModeByte <;> rfl
example : Fn.IsValidChannelMode [0x62, 0x2C, 0x6B] = .ok true := by rfl
example : Fn.IsValidChannelMode [0x62, 0x31] = .ok false := by rfl

theorem tie_isValidUserPrefix : ∀ s : Bytes, Fn.isValidUserPrefix s = .ok (isValidUserPrefix s) :=
  Proofs.Trans.isValidUserPrefix_eq
example : Fn.isValidUserPrefix [0x28, 0x6F, 0x76, 0x29, 0x40, 0x2B] = .ok true := by rfl
example : Fn.isValidUserPrefix [0x28, 0x6F, 0x76, 0x29, 0x40] = .ok false := by rfl

theorem tie_parsePrefixes : ∀ s : Bytes, Fn.parsePrefixes s = .ok (parsePrefixes s) := Proofs.Trans.parsePrefixes_eq
example : Fn.parsePrefixes [0x28, 0x6F, 0x76, 0x29, 0x40, 0x2B] = .ok ([0x6F, 0x76], [0x40, 0x2B]) := by rfl

/-- `(*CModes).hasArg(set, mode)` = `(hasArgs, isSetting)`. -/
theorem tie_CModes_hasArg : ∀ (c : CModes) (set : Bool) (mode : Byte),
    Fn.CModes_hasArg (some c) set mode = .ok (c.hasArg set mode) := Proofs.Trans.CModes_hasArg_eq
theorem tie_CModes_hasArg_nil : ∀ (set : Bool) (mode : Byte), Fn.CModes_hasArg none set mode = .error .nilDeref := fun _ _ => rfl
-- CHANMODES=b,k,l,imnpst PREFIX=(ov)@+ : "+l" takes an argument when set, "-l" does not
example : Fn.CModes_hasArg (some (newCModes [0x62, 0x2C, 0x6B, 0x2C, 0x6C, 0x2C, 0x69] [0x6F, 0x76])) true 0x6C =
    .ok (true, true) := by rfl
example : Fn.CModes_hasArg (some (newCModes [0x62, 0x2C, 0x6B, 0x2C, 0x6C, 0x2C, 0x69] [0x6F, 0x76])) false 0x6C =
    .ok (false, true) := by rfl

/-- `parseUserPrefix`: what the Go code computes.  NOTE: on an input that consists of prefix symbols only (no nick)
    the named result `modes` has been accumulated and is returned next to `success = false`; the hand-written model
    `parseUserPrefix` returns `([], [], false)` there — the two agree whenever `success = true` and always on
    `(nick, success)` (the callers test `success` first). -/
theorem tie_parseUserPrefix_go : ∀ raw : Bytes,
    Fn.parseUserPrefix raw = .ok
      (if (raw.dropWhile isPrefixSym).isEmpty then (raw.takeWhile isPrefixSym, [], false)
       else (raw.takeWhile isPrefixSym, raw.dropWhile isPrefixSym, true)) := fun raw => by
  simp only [gosem, Fn.parseUserPrefix, Proofs.Trans.parseUserPrefix_loop1_eq]
  cases (raw.dropWhile isPrefixSym).isEmpty <;> rfl
theorem tie_parseUserPrefix : ∀ raw : Bytes, (raw.dropWhile isPrefixSym).isEmpty = false →
    Fn.parseUserPrefix raw = .ok (parseUserPrefix raw) := fun raw h => by
  rw [tie_parseUserPrefix_go, parseUserPrefix, h]; rfl
theorem tie_parseUserPrefix_nick_success : ∀ raw : Bytes,
    (Fn.parseUserPrefix raw).map (fun r => (r.2.1, r.2.2)) = .ok ((parseUserPrefix raw).2.1, (parseUserPrefix raw).2.2) := fun raw => by
  rw [tie_parseUserPrefix_go, parseUserPrefix]
  cases (raw.dropWhile isPrefixSym).isEmpty <;> rfl
-- "@+nick"
example : Fn.parseUserPrefix [0x40, 0x2B, 0x6E] = .ok ([0x40, 0x2B], [0x6E], true) := by rfl
-- "@+": Go returns ("@+", "", false), the model ("", "", false)
example : Fn.parseUserPrefix [0x40, 0x2B] = .ok ([0x40, 0x2B], [], false) := by rfl
example : parseUserPrefix [0x40, 0x2B] = ([], [], false) := by rfl

/-! ### modes.go, value level of the stateful code: `CModes` values with their `[]CMode`, pointer receivers that
    are written through (`Apply`, `Perms.set` …: the generated function returns the new pointee) -/

open Girc.Proofs.Trans (asciiModes namesNodup applyOneGo permsStep)

theorem tie_NewCModes : ∀ channelModes userPrefixes : Bytes,
    Fn.NewCModes channelModes userPrefixes = .ok (newCModes channelModes userPrefixes) :=
  open Proofs.Trans Go in fun s p => by
  obtain ⟨h4, hp⟩ := splitN_pad s
  rw [NewCModes_of_split s p _ (by simp [splitN]) h4, hp, newCModes]
  obtain ⟨a, b, c, d⟩ := splitN4 s
  simp only [gosem, atL_0, atL_1, atL_2, atL_3]
-- "b,k,l,imnpst" and the degenerate "b,k" (padded with empty classes)
example : Fn.NewCModes [0x62, 0x2C, 0x6B, 0x2C, 0x6C, 0x2C, 0x69, 0x6D] [0x6F, 0x76] =
    .ok { raw := [0x62, 0x2C, 0x6B, 0x2C, 0x6C, 0x2C, 0x69, 0x6D], listArgs := [0x62], argsM := [0x6B], setArgs := [0x6C],
          noArgs := [0x69, 0x6D], prefixes := [0x6F, 0x76], modes := [] } := by rfl
example : (Fn.NewCModes [0x62, 0x2C, 0x6B] []).map (·.noArgs) = .ok [] := by rfl

theorem tie_CModes_Parse : ∀ (c : CModes) (flags : Bytes) (args : List Bytes),
    Fn.CModes_Parse (some c) flags args = .ok (c.parse flags args) := fun c flags args => by
  obtain ⟨r, hr, hv⟩ := Proofs.Trans.map_eq_ok (Proofs.Trans.CModes_Parse_loop1_eq c flags args)
  simp only [gosem, Fn.CModes_Parse, hr]
  cases r <;> exact congrArg Except.ok hv
-- "+kl-b" key 10 mask
example : Fn.CModes_Parse (some (newCModes [0x62, 0x2C, 0x6B, 0x2C, 0x6C, 0x2C, 0x69] [0x6F, 0x76]))
    [0x2B, 0x6B, 0x6C, 0x2D, 0x62] [[0x78], [0x31, 0x30], [0x6D]] =
    .ok [⟨true, 0x6B, true, [0x78]⟩, ⟨true, 0x6C, true, [0x31, 0x30]⟩, ⟨false, 0x62, false, [0x6D]⟩] := by rfl

/-- `Apply`, exactly as the Go code performs it (only the FIRST stored entry of a name is replaced / removed). -/
theorem tie_CModes_Apply_go : ∀ (c : CModes) (changes : List CMode),
    Fn.CModes_Apply (some c) changes = .ok (some { c with modes := changes.foldl applyOneGo c.modes }) := fun c changes => by
  simp only [gosem, Fn.CModes_Apply, Proofs.Trans.makeA_len, Proofs.Trans.copyA_replicate, Proofs.Trans.CModes_Apply_loop1_eq]
/-- … which is the model's `CModes.apply` on every state whose stored modes are unique by name; the invariant holds of
    `NewCModes` (no stored modes) and is preserved by `apply`. -/
theorem tie_CModes_Apply : ∀ (c : CModes) (changes : List CMode), namesNodup c.modes →
    Fn.CModes_Apply (some c) changes = .ok (some (c.apply changes)) := fun c changes h => by
  rw [tie_CModes_Apply_go, (Proofs.Trans.foldl_applyOneGo_eq changes c.modes h).1]; rfl
theorem tie_CModes_Apply_inv : ∀ (c : CModes) (changes : List CMode), namesNodup c.modes →
    namesNodup (c.apply changes).modes := fun c changes h =>
  (Proofs.Trans.foldl_applyOneGo_eq changes c.modes h).2
theorem tie_CModes_Apply_nil : ∀ changes : List CMode, Fn.CModes_Apply none changes = .error .nilDeref := fun _ => rfl
example : (Fn.CModes_Apply (some (newCModes [0x62, 0x2C, 0x6B, 0x2C, 0x6C, 0x2C, 0x69] []))
    [⟨true, 0x6B, true, [0x78]⟩, ⟨true, 0x69, true, []⟩, ⟨true, 0x6B, true, [0x79]⟩, ⟨false, 0x69, true, []⟩]).map
      (fun r => r.map (·.modes)) = .ok (some [⟨true, 0x6B, true, [0x79]⟩]) := by rfl

/-- `HasMode` / `Get` / `String` equal the models `hasMode` / `get` / `toBytes` for ALL stored mode bytes: `string(name)`
    of a `byte` is the UTF-8 encoding of the code point `name` (`Go.strOfByte`: ONE byte below 0x80, TWO bytes from 0x80
    on), in the code and in the models alike (see TRANSLATOR_NOTES §8 for the disagreement the tie found in the earlier,
    raw-byte models). -/
theorem tie_CModes_HasMode : ∀ (c : CModes) (mode : Bytes),
    Fn.CModes_HasMode (some c) mode = .ok (c.hasMode mode) := fun c mode => by
  simp only [gosem, Fn.CModes_HasMode, CModes.hasMode, Proofs.Trans.CModes_HasMode_loop1_eq]
  cases c.modes.any (fun m => Go.strOfByte m.name == mode) <;> rfl
theorem tie_CModes_Get : ∀ (c : CModes) (mode : Bytes),
    Fn.CModes_Get (some c) mode = .ok (match c.get mode with | some a => (a, true) | none => ([], false)) := fun c mode => by
  simp only [gosem, Fn.CModes_Get, CModes.get, Proofs.Trans.CModes_Get_loop1_eq]
  cases c.modes.find? (fun m => Go.strOfByte m.name == mode) with
  | none => rfl
  | some m => obtain ⟨_, _, _, args⟩ := m; cases args <;> rfl
theorem tie_CModes_String : ∀ c : CModes, Fn.CModes_String (some c) = .ok c.toBytes := fun c => by
  unfold Fn.CModes_String CModes.toBytes
  simp only [gosem, Proofs.Trans.CModes_String_loop1_eq,
    show decide (Go.len c.modes > 0) = decide (c.modes.length > 0) from Proofs.Trans.decide_congr Int.ofNat_lt]
  by_cases h0 : c.modes.length > 0 <;> simp [h0]
/-- On ASCII mode letters (all a server can announce in CHANMODES / PREFIX) the spelling of a letter is the byte itself. -/
theorem tie_CModes_hasMode_ascii : ∀ (c : CModes) (mode : Bytes), asciiModes c.modes →
    c.hasMode mode = c.modes.any (fun m => [m.name] = mode) := fun c mode h => Proofs.Trans.any_strOfByte c.modes mode h
theorem tie_CModes_toBytes_ascii : ∀ c : CModes, asciiModes c.modes →
    c.toBytes = (if c.modes.length > 0 then [0x2B] else []) ++ c.modes.map (·.name) ++
      c.modes.flatMap (fun m => if m.args.length > 0 then SP :: m.args else []) := fun c h => by
  rw [CModes.toBytes, Proofs.Trans.flatMap_strOfByte c.modes h]
example : Fn.CModes_String (some { newCModes [] [] with modes := [⟨true, 0x6B, true, [0x78]⟩, ⟨true, 0x69, true, []⟩] }) =
    .ok [0x2B, 0x6B, 0x69, 0x20, 0x78] := by rfl
example : ({ newCModes [] [] with modes := [⟨true, 0x6B, true, [0x78]⟩, ⟨true, 0x69, true, []⟩] } : CModes).toBytes =
    [0x2B, 0x6B, 0x69, 0x20, 0x78] := by rfl
example : Fn.CModes_Get (some { newCModes [] [] with modes := [⟨true, 0x6B, true, [0x78]⟩] }) [0x6B] = .ok ([0x78], true) := by rfl
example : ({ newCModes [] [] with modes := [⟨true, 0x6B, true, [0x78]⟩] } : CModes).get [0x6B] = some [0x78] := by rfl
-- a stored mode byte 0xE9 (reachable: Parse("+\xe9", nil) then Apply on NewCModes("b,k,l,imnpst", "ov")): Go's
-- string(byte(0xE9)) is "\xC3\xA9"; code and model agree
example : (newCModes [0x62, 0x2C, 0x6B, 0x2C, 0x6C, 0x2C, 0x69, 0x6D, 0x6E, 0x70, 0x73, 0x74] [0x6F, 0x76]).parse [0x2B, 0xE9] [] =
    [⟨true, 0xE9, true, []⟩] := by rfl
example : Fn.CModes_HasMode (some { newCModes [] [] with modes := [⟨true, 0xE9, true, []⟩] }) [0xE9] = .ok false := by rfl
example : ({ newCModes [] [] with modes := [⟨true, 0xE9, true, []⟩] } : CModes).hasMode [0xE9] = false := by rfl
example : Fn.CModes_HasMode (some { newCModes [] [] with modes := [⟨true, 0xE9, true, []⟩] }) [0xC3, 0xA9] = .ok true := by rfl
example : ({ newCModes [] [] with modes := [⟨true, 0xE9, true, []⟩] } : CModes).hasMode [0xC3, 0xA9] = true := by rfl
example : Fn.CModes_Get (some { newCModes [] [] with modes := [⟨true, 0xE9, true, [0x78]⟩] }) [0xC3, 0xA9] = .ok ([0x78], true) := by rfl
example : ({ newCModes [] [] with modes := [⟨true, 0xE9, true, [0x78]⟩] } : CModes).get [0xC3, 0xA9] = some [0x78] := by rfl
example : ({ newCModes [] [] with modes := [⟨true, 0xE9, true, [0x78]⟩] } : CModes).get [0xE9] = none := by rfl
example : Fn.CModes_String (some { newCModes [] [] with modes := [⟨true, 0xE9, true, []⟩] }) = .ok [0x2B, 0xC3, 0xA9] := by rfl
example : ({ newCModes [] [] with modes := [⟨true, 0xE9, true, []⟩] } : CModes).toBytes = [0x2B, 0xC3, 0xA9] := by rfl

theorem tie_CModes_Copy : ∀ c : CModes, Fn.CModes_Copy (some c) = .ok c := fun c => by
  have hl := Proofs.Trans.CModes_Copy_loop1_eq c
  simp only [Proofs.Trans.zeroCMode] at hl
  simp only [gosem, Fn.CModes_Copy, Proofs.Trans.makeA_len, hl]
example : Fn.CModes_Copy (some { newCModes [0x62] [] with modes := [⟨true, 0x6B, true, [0x78]⟩] }) =
    .ok { newCModes [0x62] [] with modes := [⟨true, 0x6B, true, [0x78]⟩] } := by rfl

theorem tie_Perms_reset : ∀ p : Perms, Fn.Perms_reset (some p) = .ok (some {}) := Proofs.Trans.Perms_reset_eq
/-- `(*Perms).set(prefix, add)`: one flag per prefix symbol, after a reset unless `add`. -/
theorem tie_Perms_set_go : ∀ (p : Perms) (s : Bytes) (add : Bool),
    Fn.Perms_set (some p) s add = .ok (some (s.foldl permsStep (if add then p else {}))) := Proofs.Trans.Perms_set_go
theorem tie_Perms_set : ∀ (p : Perms) (s : Bytes), Fn.Perms_set (some p) s false = .ok (some (permsFromPrefix s)) := fun p s => by
  rw [Proofs.Trans.Perms_set_go, Proofs.Trans.permsFromPrefix_fold]; rfl
theorem tie_Perms_setFromMode : ∀ (p : Perms) (m : CMode),
    Fn.Perms_setFromMode (some p) m = .ok (some (p.setFromMode m)) := open Proofs.Trans Go in fun p m => by
  simp only [gosem, Fn.Perms_setFromMode, Perms.setFromMode, Fn.ModeOwner, Fn.ModeAdmin, Fn.ModeOperator,
    Fn.ModeHalfOperator, Fn.ModeVoice, strOfByte_beq m.name 0x71 (by decide), strOfByte_beq m.name 0x61 (by decide),
    strOfByte_beq m.name 0x6F (by decide), strOfByte_beq m.name 0x68 (by decide),
    strOfByte_beq m.name 0x76 (by decide), decide_eq_true_eq,
    apply_ite (fun q : Perms => (Except.ok (some q) : Except Fault (Option Perms)))]
theorem tie_Perms_IsAdmin : ∀ p : Perms, Fn.Perms_IsAdmin p = .ok (p.owner || p.admin || p.op) := fun p => by
  unfold Fn.Perms_IsAdmin
  cases p.owner <;> cases p.admin <;> cases p.op <;> rfl
theorem tie_Perms_IsTrusted : ∀ p : Perms, Fn.Perms_IsTrusted p = .ok (p.owner || p.admin || p.op || p.halfop || p.voice) := fun p => by
  unfold Fn.Perms_IsTrusted
  rw [tie_Perms_IsAdmin]
  cases p.owner <;> cases p.admin <;> cases p.op <;> cases p.halfop <;> cases p.voice <;> rfl
example : Fn.Perms_set (some { owner := true }) [0x40, 0x2B] false = .ok (some { op := true, voice := true }) := by rfl
example : Fn.Perms_set (some { owner := true }) [0x40] true = .ok (some { owner := true, op := true }) := by rfl
example : Fn.Perms_setFromMode (some { op := true }) ⟨false, 0x6F, false, [0x6E]⟩ = .ok (some {}) := by rfl

end Girc.Props.TieModes
