import Girc.Proofs.Locks
import Girc.Gen.LockFacts
import Girc.Spec.LockPolicy
/- C12 — the client is free of data races and deadlocks under concurrent use. Property theorems only.
   Two layers: (1) on an abstract machine of threads, reader/writer locks and guarded resources, the
   lockset discipline implies race freedom and ranked acquisition implies deadlock freedom — for any
   number of threads, any programs, any schedule; (2) the discipline is checked on lock facts
   REGENERATED from the Go source on every run (tools/extract/lockfacts.go: a path-sensitive,
   interprocedural lockset walk of every function). What ties the Go program to the abstract machine
   (the extractor's abstraction, the Go memory model, channel- and WaitGroup-based ordering) is
   trusted and named in DESIGN.md; the race-detector stress run is the search for a concrete schedule. -/
namespace Girc.Props.C12
open Girc Girc.Model.Locks Girc.Spec.LockPolicy

/-! ### the abstract machine -/

theorem lockset_sound (guard : Res → LockId) (progs : List (List Op))
    (hd : ∀ p ∈ progs, covered guard [] p = true) (c : Cfg) (h : Reach progs c) : ¬ Race c :=
  Proofs.Locks.lockset_sound guard progs hd c h

theorem order_sound (rank : LockId → Nat) (progs : List (List Op))
    (ho : ∀ p ∈ progs, ordered rank [] p = true) (c : Cfg) (h : Reach progs c) : ¬ Deadlocked c :=
  Proofs.Locks.order_sound rank progs ho c h

/-- Without the disciplines the machine does race and does deadlock (the theorems are not vacuous). -/
theorem undisciplined_deadlocks :
    ∃ c, Reach [[.acq 0 true, .acq 1 true], [.acq 1 true, .acq 0 true]] c ∧ Deadlocked c := by
  let locks₁ : LockId → LockSt := setLock (fun _ => {}) 0 { writer := some 0, readers := [] }
  let locks₂ : LockId → LockSt := setLock locks₁ 1 { writer := some 1, readers := [] }
  refine ⟨{ progs := [[.acq 1 true], [.acq 0 true]], locks := locks₂ }, ?_, ?_⟩
  · have s₁ : step (initCfg [[.acq 0 true, .acq 1 true], [.acq 1 true, .acq 0 true]]) 0 =
        some { progs := [[Op.acq 1 true], [Op.acq 1 true, Op.acq 0 true]], locks := locks₁ } := rfl
    have s₂ : step { progs := [[Op.acq 1 true], [Op.acq 1 true, Op.acq 0 true]], locks := locks₁ } 1 =
        some { progs := [[Op.acq 1 true], [Op.acq 0 true]], locks := locks₂ } := rfl
    exact Reach.step 1 (Reach.step 0 Reach.init s₁) s₂
  · refine ⟨⟨0, [.acq 1 true], rfl, by simp⟩, ?_⟩
    intro t
    match t with
    | 0 => rfl
    | 1 => rfl
    | t + 2 => rfl

/-! ### the discipline holds of the source (facts regenerated on every run) -/

/-- Every access to a guarded resource, on every path from every root (exported API, handlers,
    goroutines, loops), happens under its guard — exclusively for writes — except the listed accesses
    ordered by goroutine creation / `group.Wait()`. -/
theorem facts_covered :
    ∀ u ∈ Gen.Lock.unguarded, (u.1, u.2.1, u.2.2.2.1) ∈ allowUnguarded := by decide

/-- Locks are acquired in rank order (state < Client.mu < ircConn.mu, UserPerms.mu; Caller.mu and
    CTCP.mu are never held while another lock is taken, nor taken while one is held), never
    re-acquired while held, with the one listed exception. -/
theorem facts_ordered :
    ∀ e ∈ Gen.Lock.edges, (e.1, e.2.2.1) ∈ allowEdges ∨ rank e.1 < rank e.2.2.1 := by decide

/-- The one exception to the rank rule is confined: for every exempt edge (a, b), the functions that hold `b` while `a` is
    acquired — i.e. that take the two locks in the opposite order — are exactly the listed ones (code that only runs while
    a connection is up). -/
theorem facts_exception_confined :
    ∀ h ∈ Gen.Lock.edgeHolders, (h.2.1, h.1) ∈ allowEdges → h.2.2 ∈ reverseHolders := by decide

/-- No user code (handlers, callbacks) and no unbounded blocking operation runs while a lock is held,
    except the listed bounded ones. -/
theorem facts_no_callouts_under_lock :
    ∀ c ∈ Gen.Lock.callouts, (c.1, c.2.1, c.2.2.1) ∈ allowCallouts := by decide

/-- Every lock taken on a path is released on that path (no early return with a lock held, no unlock
    of a lock not held, held sets agree at joins), and every call could be resolved. -/
theorem facts_consistent : Gen.Lock.inconsistent = [] ∧ Gen.Lock.unresolved = [] := by decide

/-- The extractor still recognises the locks and the resources. -/
theorem facts_sane :
    (∀ m ∈ minLockSites, ∃ s ∈ Gen.Lock.lockSites, s.1 = m.1 ∧ m.2 ≤ s.2) ∧
    (∀ m ∈ minAccessSites, ∃ s ∈ Gen.Lock.accessSites, s.1 = m.1 ∧ m.2.1 ≤ s.2.1 ∧ m.2.2 ≤ s.2.2) := by decide

end Girc.Props.C12
