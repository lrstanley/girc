import Girc.Proofs.InvHandlers
/- C05 — no server input can crash, wedge or structurally corrupt the client. Property theorems only. -/
namespace Girc.Props.C05
open Girc Girc.Model Girc.Spec

/-- The freshly reset state is consistent. -/
theorem inv_init : Inv ({} : St) := Proofs.InvBase.inv_init

/-- One event: every Go index expression and pointer dereference in the built-in handlers is a
    checked operation of the model (`Fault`), so "returns `.ok`" is "does not panic". -/
theorem no_fault_inv (cfg : Cfg) (cs : CState) (e : Event) (time idle : Bytes) (h : Inv cs.st) :
    ∃ cs' outs, handleEvent cfg cs e time idle = .ok (cs', outs) ∧ Inv cs'.st :=
  Proofs.InvHandlers.handleEvent_inv cfg cs e time idle h

/-- Every sequence of lines a server may send, from the initial state. -/
theorem history_no_fault_inv (cfg : Cfg) (lines : List Bytes) :
    ∃ r, runLines cfg {} lines = .ok r ∧ Inv r.cs.st := by
  suffices ∀ r : Run, Inv r.cs.st → ∃ r', runLines cfg r lines = .ok r' ∧ Inv r'.cs.st from this {} inv_init
  intro r h
  unfold runLines
  induction lines generalizing r with
  | nil => exact ⟨r, rfl, h⟩
  | cons line rest ih =>
    obtain ⟨r1, h1, hi⟩ := Proofs.InvHandlers.stepLine_inv cfg r line (fun _ => true) h
    rw [List.foldlM_cons, h1, Proofs.InvBase.ok_bind]
    exact ih r1 hi

theorem ping_answered (cfg : Cfg) (cs : CState) (e : Event) (time idle : Bytes) (hp : e.command = cPING) :
    ∃ cs', handleEvent cfg cs e time idle = .ok (cs', [Out.write { command := cPONG, params := [e.last] }]) :=
  Proofs.InvHandlers.ping_answered cfg cs e time idle hp

/-- The executable invariant check used on the implementation's state dumps is the invariant. -/
theorem invB_iff (st : St) : invB st = true ↔ Inv st :=
  (Proofs.InvBase.invB_iff_invL st).trans (Proofs.InvBase.inv_iff_invL st).symm

end Girc.Props.C05
