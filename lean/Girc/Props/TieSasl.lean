import Girc.Proofs.TransSaslConn
/-
  Tie (TieSasl, C09): the SASL encoders of cap_sasl.go regenerated from the Go source equal the models of Model/Sasl.lean for
  ALL inputs.  `base64.StdEncoding.EncodeToString` is a TRUSTED stdlib table entry (`b64Encode`, Girc/Base/GoSem.lean; C09
  proves it loses nothing against the reference decoder).
-/
namespace Girc.Props.TieSasl
open Girc Girc.Model Girc.Gen

theorem tie_SASLPlain_Encode : ∀ (s : SASLPlain) (params : List Bytes),
    Fn.SASLPlain_Encode (some s) params = .ok (saslPlainEncode s.user s.pass params) := fun s params => by
  unfold Fn.SASLPlain_Encode saslPlainEncode
  rw [Proofs.Trans.sasl_guard]
  by_cases h : params = [PLUS] <;> simp [h, bind, Except.bind, pure, Except.pure]
theorem tie_SASLExternal_Encode : ∀ (s : SASLExternal) (params : List Bytes),
    Fn.SASLExternal_Encode (some s) params = .ok (saslExternalEncode s.identity params) := fun s params => by
  unfold Fn.SASLExternal_Encode saslExternalEncode
  rw [Proofs.Trans.sasl_guard]
  by_cases h : params = [PLUS]
  · by_cases hi : s.identity = []
    · simp [h, hi, bind, Except.bind, pure, Except.pure, PLUS]
    · simp [h, hi, bind, Except.bind, pure, Except.pure, bne]
  · simp [h, bind, Except.bind, pure, Except.pure]
-- user "a", pass "b", challenge "+": base64("a\0a\0b") = "YQBhAGI="
example : (Fn.SASLPlain_Encode (some { user := [0x61], pass := [0x62] }) [[0x2B]]).toOption =
    some [0x59, 0x51, 0x42, 0x68, 0x41, 0x47, 0x49, 0x3D] := by decide +kernel
example : Fn.SASLPlain_Encode (some { user := [0x61], pass := [0x62] }) [] = .ok [] := by rfl
example : Fn.SASLExternal_Encode (some { identity := [] }) [[0x2B]] = .ok [0x2B] := by rfl
example : Fn.SASLExternal_Encode (some { identity := [0x69] }) [[0x2B]] = .ok [0x69] := by rfl

/-- The AUTHENTICATE chunk loop of `handleSASL` (the TAIL of the handler, from its `for` statement on, with `auth` — the
    mechanism's answer, computed by the untranslated first part — as a parameter; calls of the sink `c.write` are collected
    in call order): exactly the `Out`s of the last branch of the model's `handleSASL`, i.e. `saslChunks auth`. -/
theorem tie_handleSASL_chunks : ∀ auth : Bytes, Fn.handleSASL_chunks auth =
    .ok ((saslChunks auth).map fun c => Out.write { command := cAUTHENTICATE, params := [c] }) :=
  fun auth => by
  obtain ⟨a, hl⟩ := Proofs.Trans.handleSASL_chunks_loop1_eq (auth.length + 1) auth [] (Nat.lt_succ_self _)
  simp only [gosem, Fn.handleSASL_chunks, show (Go.len auth).toNat + 1 = auth.length + 1 from rfl, hl, List.nil_append]
  rfl

def outParams : List Out → List (List Bytes)
  | [] => []
  | .write e :: r => e.params :: outParams r
  | _ :: r => outParams r
-- 401 bytes: one chunk of 400 and one of 1; exactly 400 bytes: the chunk and the "+" acknowledgement
example : (Fn.handleSASL_chunks (List.replicate 401 0x41)).toOption.map (fun os => (outParams os).map (·.map List.length)) =
    some [[400], [1]] := by decide +kernel
example : (Fn.handleSASL_chunks (List.replicate 400 0x41)).toOption.map (fun os => (outParams os).map (·.map List.length)) =
    some [[400], [1]] := by decide +kernel
example : (Fn.handleSASL_chunks (List.replicate 400 0x41)).toOption.map (fun os => (outParams os).getLast?) =
    some (some [[0x2B]]) := by decide +kernel

end Girc.Props.TieSasl
