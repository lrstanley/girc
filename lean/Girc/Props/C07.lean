import Girc.Proofs.Life
import Girc.Gen.Skel
import Girc.Spec.Skeletons
/- C07 — Connect always terminates cleanly and reports why. Property theorems only.
   The model (Model/Lifecycle.lean) is an interleaving transition system of main / execLoop / readLoop /
   sendLoop / pingLoop / user goroutines / the peer; every theorem quantifies over ALL reachable states,
   i.e. all placements of Close / Quit / ERROR / EOF relative to the loops. -/
namespace Girc.Props.C07
open Girc Girc.Model.Life

/-! ### the code the model was written against is the code in the tree (regenerated on every run) -/
theorem skel_internalConnect : Gen.skel_internalConnect = Spec.Skel.skel_internalConnect := rfl
theorem skel_execLoop : Gen.skel_execLoop = Spec.Skel.skel_execLoop := rfl
theorem skel_readLoop : Gen.skel_readLoop = Spec.Skel.skel_readLoop := rfl
theorem skel_sendLoop : Gen.skel_sendLoop = Spec.Skel.skel_sendLoop := rfl
theorem skel_pingLoop : Gen.skel_pingLoop = Spec.Skel.skel_pingLoop := rfl
theorem skel_Close : Gen.skel_Close = Spec.Skel.skel_Close := rfl
theorem skel_Quit : Gen.skel_Quit = Spec.Skel.skel_Quit := rfl
theorem skel_write : Gen.skel_write = Spec.Skel.skel_write := rfl
theorem skel_receive : Gen.skel_receive = Spec.Skel.skel_receive := rfl
theorem skel_decode : Gen.skel_decode = Spec.Skel.skel_decode := rfl
/-- every connection starts by resetting the tracked state; teardown closes the socket -/
theorem skel_state_reset : Gen.skel_state_reset = Spec.Skel.skel_state_reset ∧
    Gen.skel_ircConn_Close = Spec.Skel.skel_ircConn_Close := ⟨rfl, rfl⟩
theorem skel_ctxgroup :
    Gen.skel_ctxgroup_New = Spec.Skel.skel_ctxgroup_New ∧ Gen.skel_ctxgroup_Wait = Spec.Skel.skel_ctxgroup_Wait ∧
    Gen.skel_ctxgroup_Go = Spec.Skel.skel_ctxgroup_Go := ⟨rfl, rfl, rfl⟩

/-! ### what Connect returns -/

/-- For every reachable state in which Connect has returned `res`:
    nil exactly when the close was requested (Close() called or a QUIT written) before `group.Wait()`
    returned; otherwise, if handlers saw an ERROR, the result is the ErrEvent of the FIRST such ERROR;
    an ErrEvent result always carries the text of the first ERROR delivered; an I/O error is only
    reported after the peer closed and only when no ERROR had been handled. -/
theorem result_classification (s : LState) (h : Reach s) (res : Option Err) (hr : s.main = .returned res) :
    (res = none ↔ s.reqAtWait = true) ∧
    (s.reqAtWait = true → s.closeRequested = true) ∧
    (s.reqAtWait = false → ∀ e, firstError s.delivered = some e → res = some e) ∧
    (∀ t, res = some (.errEvent t) → firstError s.delivered = some (.errEvent t)) ∧
    (res = some .io → s.peerClosed = true ∧ firstError s.delivered = none) :=
  Proofs.Life.result_classification h res hr

/-- A requested close has cancelled the parent context by the time the loops are waited for, so the
    branch `ctx.Err() != nil ⇒ err = nil` is taken: Connect returns nil after Close()/Quit(). -/
theorem close_returns_nil (s : LState) (h : Reach s) (hw : s.main = .waiting) (hc : s.closeRequested = true) :
    s.parentCancelled = true := Proofs.Life.close_returns_nil h hw hc

/-- Every event received before an ERROR is delivered to handlers first: rx is FIFO with one
    consumer, and the reported ERROR is the first one delivered. -/
theorem events_before_error (s : LState) (h : Reach s) (res : Option Err) (hr : s.main = .returned res) (t : Bytes)
    (he : res = some (.errEvent t)) :
    ∃ pre e post, s.delivered = pre ++ [e] ++ post ∧ e.isError = true ∧ e.text = t ∧ (∀ x ∈ pre, x.isError = false) ∧
      s.received = pre ++ [e] ++ post ++ s.rx := by
  have hc := (Proofs.Life.result_classification h res hr).2.2.2.1 t he
  obtain ⟨pre, e, post, hd, h1, h2, h3⟩ := Proofs.Life.firstError_split s.delivered t hc
  exact ⟨pre, e, post, hd, h1, h2, h3, by rw [(Proofs.Life.good_of_reach h).fifo, hd]⟩

theorem fifo (s : LState) (h : Reach s) : s.received = s.delivered ++ s.rx := (Proofs.Life.good_of_reach h).fifo

/-! ### lifecycle events, socket, goroutines -/

/-- DISCONNECTED exactly once, last; CLOSED before it exactly when Connect returns nil. -/
theorem lifecycle_events (s : LState) (h : Reach s) (res : Option Err) (hr : s.main = .returned res) :
    s.emitted = if res = none then [.closed, .disconnected] else [.disconnected] := by
  rw [(Proofs.Life.good_of_reach h).emitted_eq, hr]; rfl

/-- When Connect returns the socket is closed, `conn` is nil (IsConnected() is false) and all four
    loops have exited; and they had all exited before the socket was closed. -/
theorem at_return (s : LState) (h : Reach s) (res : Option Err) (hr : s.main = .returned res) :
    s.sockClosed = true ∧ s.connNil = true ∧ s.exec.done = true ∧ s.read.done = true ∧ s.send.done = true ∧
    s.ping.done = true := by
  have g := Proofs.Life.good_of_reach h
  refine ⟨?_, ?_, g.main_done (by rw [hr]; nofun)⟩
  · rw [g.sock_eq, hr]; rfl
  · rw [g.conn_eq, hr]; rfl

theorem sock_closed_after_loops (s : LState) (h : Reach s) (hc : s.sockClosed = true) :
    s.exec.done = true ∧ s.read.done = true ∧ s.send.done = true ∧ s.ping.done = true := by
  have g := Proofs.Life.good_of_reach h
  refine g.main_done fun hw => ?_
  rw [g.sock_eq, hw] at hc
  cases hc

/-! ### the same client connects again: nothing of the previous connection is seen -/

/-- A new connection starts with empty queues whatever the previous one left behind … -/
theorem reconnect_clean (rx : List Ev) (tx : List OutEv) (cap : Nat) :
    (begin rx tx cap).rx = [] ∧ (begin rx tx cap).tx = [] ∧ (begin rx tx cap).delivered = [] := ⟨rfl, rfl, rfl⟩

/-- … so everything delivered to handlers was sent by the peer on THIS connection. -/
theorem no_stale (s : LState) (h : Reach s) : ∀ e ∈ s.delivered, e ∈ s.sent := by
  have g := Proofs.Life.good_of_reach h
  exact fun e he => g.recv_sent e (by rw [g.fifo]; exact List.mem_append_left _ he)

/-! ### bounded termination -/

/-- Each terminating cause (Close(), a read error / EOF, a malformed line, a ping timeout, an ERROR
    taken by execLoop, a written QUIT, a write error) cancels the group. -/
theorem causes_cancel (s s' : LState) :
    (step s .userClose = some s' → s'.groupCancelled = true) ∧
    (step s .readEOF = some s' → s'.groupCancelled = true) ∧
    (step s .readParseErr = some s' → s'.groupCancelled = true) ∧
    (step s .pingTimeout = some s' → s'.groupCancelled = true) ∧
    (step s .execTake = some s' → (∃ e rest, s.rx = e :: rest ∧ e.isError = true) → s'.groupCancelled = true) ∧
    (step s .sendTake = some s' → (∃ rest, s.tx = .quit :: rest) → s'.groupCancelled = true) ∧
    (step s .sendFail = some s' → s'.groupCancelled = true) := by
  refine ⟨fun hs => ?_, fun hs => ?_, fun hs => ?_, fun hs => ?_, fun hs hx => ?_, fun hs hx => ?_, fun hs => ?_⟩ <;>
    step_cases hs <;> try rfl
  -- the two branches that do not cancel contradict the extra hypothesis
  · obtain ⟨e, rest, h1, h2⟩ := hx; simp_all
  · obtain ⟨rest, h1⟩ := hx; simp_all

/-- After that, under ANY schedule, at most `measure s` library steps can happen (the measure counts
    the loops still running, the queued events and outputs, and main's remaining statements) … -/
theorem bounded_termination (s s' : LState) (acts : List Act) (hc : s.groupCancelled = true)
    (hl : ∀ a ∈ acts, a.isLib = true) (hr : run s acts = some s') : acts.length + measure s' ≤ measure s := by
  induction acts generalizing s with
  | nil => cases hr; exact Nat.le_of_eq (Nat.zero_add _)
  | cons a rest ih =>
    simp only [run] at hr
    split at hr
    · rename_i s1 hs1
      have h1 := Proofs.Life.lib_decreases s s1 a hc (hl a List.mem_cons_self) hs1
      have h3 := ih s1 (Proofs.Life.cancelled_stays s s1 a hs1 hc) (fun b hb => hl b (List.mem_cons_of_mem _ hb)) hr
      simp only [List.length_cons]
      omega
    · cases hr

/-- … some library step is always enabled until Connect has returned (no deadlock among the loops) … -/
theorem never_stuck (s : LState) (hc : s.groupCancelled = true) (hm : ∀ r, s.main ≠ .returned r) :
    ∃ a, a.isLib = true ∧ (step s a).isSome = true := Proofs.Life.lib_enabled s hc hm

/-- … hence every schedule that keeps running library steps ends with Connect returned. -/
theorem terminates (s s' : LState) (acts : List Act) (hc : s.groupCancelled = true)
    (hl : ∀ a ∈ acts, a.isLib = true) (hr : run s acts = some s')
    (hmax : ∀ a, a.isLib = true → step s' a = none) : ∃ r, s'.main = .returned r := by
  have _ := hl  -- not needed: the cancellation persists under every action
  apply Classical.byContradiction
  intro hn
  obtain ⟨a, ha, hsome⟩ := Proofs.Life.lib_enabled s' (Proofs.Life.run_cancelled s s' acts hc hr) fun r h => hn ⟨r, h⟩
  rw [hmax a ha] at hsome
  cases hsome

/-! ### keep-alive pings disabled (`Config.PingDelay <= 0`); a connection ends only for a reason -/

/-- `pingLoop` starts with `if c.Config.PingDelay <= 0 { return nil }`. That early return (possible exactly
    when pings are disabled and the loop has not returned yet) changes nothing but the loop's own status:
    the group is not cancelled, no error is recorded, main and the other three loops do not move. -/
theorem ping_off_does_not_end (s s' : LState) (hs : step s .pingDisabled = some s') :
    s'.groupCancelled = s.groupCancelled ∧ s'.groupErr = s.groupErr ∧ s'.parentCancelled = s.parentCancelled ∧
    s'.main = s.main ∧ s'.exec = s.exec ∧ s'.read = s.read ∧ s'.send = s.send := by
  step_cases hs
  exact ⟨rfl, rfl, rfl, rfl, rfl, rfl, rfl⟩

theorem ping_off_enabled_iff (s : LState) :
    (step s .pingDisabled).isSome = true ↔ (s.pingOff = true ∧ s.ping = .running) := by
  simp only [step]
  cases hp : s.ping <;> cases ho : s.pingOff <;> simp

/-- With pings disabled there is no ping timeout; and no step ever changes the configuration. -/
theorem ping_off_no_timeout (s : LState) (ho : s.pingOff = true) : step s .pingTimeout = none := by
  simp only [step]
  cases hp : s.ping <;> simp [ho]

theorem config_fixed (s s' : LState) (a : Act) (hs : step s a = some s') : s'.pingOff = s.pingOff ∧ s'.cap = s.cap :=
  (Proofs.Life.step_frame hs).1

/-- A connection ends only for a reason. In every reachable state (every interleaving, pings enabled or
    disabled) in which the group context is cancelled, a terminating cause has occurred in the history:
    Close() was called or a QUIT was written, the peer closed the connection, an ERROR was delivered to
    handlers, a malformed line was read, the ping loop timed out, or a socket write failed.
    (Non-vacuous: the runs below reach cancelled states, one for each single cause.) -/
theorem no_spontaneous_end (s : LState) (h : Reach s) (hc : s.groupCancelled = true) :
    s.closeRequested = true ∨ s.peerClosed = true ∨ firstError s.delivered ≠ none ∨
    s.parseErrSeen = true ∨ s.pingTimedOut = true ∨ s.writeFailed = true :=
  Proofs.Life.no_spontaneous_end h hc

/-- If Connect has returned, one of the causes holds. -/
theorem returned_has_cause (s : LState) (h : Reach s) (res : Option Err) (hr : s.main = .returned res) :
    s.closeRequested = true ∨ s.peerClosed = true ∨ firstError s.delivered ≠ none ∨
    s.parseErrSeen = true ∨ s.pingTimedOut = true ∨ s.writeFailed = true :=
  have g := Proofs.Life.good_of_reach h
  g.cause (g.cancelled_of_done (g.main_done (by rw [hr]; nofun)).1)

/-- Without a cause the connection is still up, in every reachable state: the group is not cancelled,
    Connect is blocked in `group.Wait()`, execLoop / readLoop / sendLoop are running, the socket is open,
    `conn` is set; pingLoop is running or — only with pings disabled — has returned nil. -/
theorem up_without_cause (s : LState) (h : Reach s)
    (h1 : s.closeRequested = false) (h2 : s.peerClosed = false) (h3 : firstError s.delivered = none)
    (h4 : s.parseErrSeen = false) (h5 : s.pingTimedOut = false) (h6 : s.writeFailed = false) :
    s.groupCancelled = false ∧ s.main = .waiting ∧ s.exec = .running ∧ s.read = .running ∧ s.send = .running ∧
    (s.ping = .running ∨ (s.pingOff = true ∧ s.ping = .exited none)) ∧ s.sockClosed = false ∧ s.connNil = false := by
  have g := Proofs.Life.good_of_reach h
  have hgc : s.groupCancelled = false := by
    cases hx : s.groupCancelled with
    | false => rfl
    | true =>
      rcases g.cause hx with c | c | c | c | c | c
      · rw [h1] at c; cases c
      · rw [h2] at c; cases c
      · exact absurd h3 c
      · rw [h4] at c; cases c
      · rw [h5] at c; cases c
      · rw [h6] at c; cases c
  obtain ⟨hexec, hread, hsend, hping⟩ := g.up hgc
  have hw := g.waiting (.inl hexec)
  exact ⟨hgc, hw, hexec, hread, hsend, hping, g.sock_open hw, by rw [g.conn_eq, hw]; rfl⟩

/-- In particular with pings disabled: whatever has happened (the ping loop has returned or not), as long
    as none of the causes has occurred Connect has not returned — it is still in `group.Wait()`. -/
theorem ping_off_still_up (s : LState) (h : Reach s) (_ho : s.pingOff = true)
    (h1 : s.closeRequested = false) (h2 : s.peerClosed = false) (h3 : firstError s.delivered = none)
    (h4 : s.parseErrSeen = false) (h5 : s.pingTimedOut = false) (h6 : s.writeFailed = false) :
    s.main = .waiting ∧ s.groupCancelled = false :=
  have u := up_without_cause s h h1 h2 h3 h4 h5 h6
  ⟨u.2.1, u.1⟩

/-- The three cause flags are history variables: erasing them changes neither whether an action is
    enabled nor its effect on the rest of the state; and each is written by a single action. -/
theorem cause_flags_are_history (s : LState) (a : Act) :
    (step (Proofs.Life.forgetCauses s) a).map Proofs.Life.forgetCauses = (step s a).map Proofs.Life.forgetCauses :=
  Proofs.Life.cause_flags_are_history s a

theorem cause_flags_writers (s s' : LState) (a : Act) (hs : step s a = some s') :
    (a ≠ .readParseErr → s'.parseErrSeen = s.parseErrSeen) ∧
    (a ≠ .pingTimeout → s'.pingTimedOut = s.pingTimedOut) ∧
    (a ≠ .sendFail → s'.writeFailed = s.writeFailed) :=
  (Proofs.Life.step_frame hs).2.2

/-! ### non-vacuity: concrete schedules -/
def evN (n : Nat) : Ev := ⟨false, [], n⟩
def evErr : Ev := ⟨true, [0x62, 0x79, 0x65], 9⟩   -- ERROR :bye

/-- ERROR then EOF: the ERROR is what is reported, even when the read loop saw the EOF first. -/
example : (run (begin [] []) [.peerSend (evN 0), .peerSend evErr, .peerClose, .readTake, .readTake, .readEOF,
      .execTake, .execFlush, .sendCancel, .pingCancel, .mainWait, .mainTeardown, .mainDisc, .mainFinish]).map
      (fun s => (s.main, s.emitted, s.delivered.length)) =
    some (.returned (some (.errEvent [0x62, 0x79, 0x65])), [.disconnected], 2) := by decide +kernel

/-- Quit(): the server answers with ERROR and closes before sendLoop's Close() is noticed — still nil, CLOSED emitted. -/
example : (run (begin [] []) [.userQuit, .sendTake, .peerSend evErr, .peerClose, .readTake, .execTake, .readCancel,
      .pingCancel, .mainWait, .mainClosedEv, .mainTeardown, .mainDisc, .mainFinish]).map
      (fun s => (s.main, s.emitted)) =
    some (.returned none, [.closed, .disconnected]) := by decide +kernel

/-- `no_spontaneous_end` is not vacuous and no disjunct is redundant: for each cause a run that cancels
    the group with that cause alone. The list is [groupCancelled, closeRequested, peerClosed,
    an ERROR delivered, parseErrSeen, pingTimedOut, writeFailed]. -/
def causeVec (s : LState) : List Bool :=
  [s.groupCancelled, s.closeRequested, s.peerClosed, (firstError s.delivered).isSome, s.parseErrSeen, s.pingTimedOut,
    s.writeFailed]

/-- Pings disabled: the ping loop returns at once; the connection stays up and keeps working
    (nothing cancelled, Connect still waiting, no cause recorded) … -/
example : (run (begin [] [] 25 true) [.pingDisabled, .peerSend (evN 0), .readTake, .execTake]).map
      (fun s => ((s.main, s.groupCancelled, s.delivered.length), [s.ping, s.exec, s.read, s.send], causeVec s)) =
    some ((.waiting, false, 1), [.exited none, .running, .running, .running],
      [false, false, false, false, false, false, false]) := by decide +kernel

/-- … until Close(): then it winds down to nil with CLOSED, DISCONNECTED. -/
example : (run (begin [] [] 25 true) [.pingDisabled, .peerSend (evN 0), .readTake, .execTake,
      .userClose, .readCancel, .execFlush, .sendCancel, .mainWait, .mainClosedEv, .mainTeardown, .mainDisc, .mainFinish]).map
      (fun s => (s.main, s.emitted, s.closeRequested)) =
    some (.returned none, [.closed, .disconnected], true) := by decide +kernel

/-- With pings disabled neither the ticker path nor the `<-ctx.Done()` arm exists; with pings enabled
    the early return does not. -/
example : run (begin [] [] 25 true) [.pingTimeout] = none ∧ run (begin [] [] 25 true) [.userClose, .pingCancel] = none ∧
    run (begin [] []) [.pingDisabled] = none := by decide +kernel

/-- The ping loop may also get to its early return only after the group was cancelled. -/
example : (run (begin [] [] 25 true) [.userClose, .readCancel, .execFlush, .sendCancel, .pingDisabled, .mainWait,
      .mainClosedEv, .mainTeardown, .mainDisc, .mainFinish]).map (fun s => (s.main, s.emitted)) =
    some (.returned none, [.closed, .disconnected]) := by decide +kernel

/-- one run per cause -/
example : (run (begin [] []) [.userClose]).map causeVec = some [true, true, false, false, false, false, false] := by
  decide +kernel
example : (run (begin [] []) [.peerClose, .readEOF]).map causeVec = some [true, false, true, false, false, false, false] := by
  decide +kernel
example : (run (begin [] []) [.peerSend evErr, .readTake, .execTake]).map causeVec =
    some [true, false, false, true, false, false, false] := by decide +kernel
example : (run (begin [] []) [.peerSend (evN 0), .readParseErr]).map causeVec =
    some [true, false, false, false, true, false, false] := by decide +kernel
example : (run (begin [] []) [.pingTimeout]).map causeVec = some [true, false, false, false, false, true, false] := by
  decide +kernel
/-- (a write can only fail after the peer closed: the peer's close is a cause as well here) -/
example : (run (begin [] []) [.userSend 1, .peerClose, .sendFail]).map causeVec =
    some [true, false, true, false, false, false, true] := by decide +kernel

end Girc.Props.C07
