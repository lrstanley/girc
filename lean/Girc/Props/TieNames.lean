import Girc.Proofs.TransFormat
/-
  Tie (TieNames): the function bodies regenerated from the Go source on every run (Girc/Gen/Funcs.lean, written by
  tools/extract/translate.go) equal the hand-written models the property theorems of C15 are about, for ALL inputs.
  Proved in Girc/Proofs/Trans*.lean or, where the proof is short, below the statement; each with a non-vacuity example
  that evaluates the generated function on a literal. An edit of the Go function changes Funcs.lean and the equivalence stops building.
-/
namespace Girc.Props.TieNames
open Girc Girc.Model Girc.Gen

/-! ### format.go -/

theorem tie_ToRFC1459 : ∀ s : Bytes, Fn.ToRFC1459 s = .ok (fold s) := Proofs.Trans.ToRFC1459_eq
example : Fn.ToRFC1459 [0x41, 0x5B, 0x5E, 0x5F, 0x7A] = .ok [0x61, 0x7B, 0x7E, 0x5F, 0x7A] := by rfl

theorem tie_IsValidNick : ∀ s : Bytes, Fn.IsValidNick s = .ok (isValidNick s) := Proofs.Trans.IsValidNick_eq
example : Fn.IsValidNick [0x61, 0x5B, 0x2D, 0x39] = .ok true := by rfl
example : Fn.IsValidNick [0x61, 0x20] = .ok false := by rfl

theorem tie_IsValidUser : ∀ s : Bytes, Fn.IsValidUser s = .ok (isValidUser s) := Proofs.Trans.IsValidUser_eq
example : Fn.IsValidUser [0x7E, 0x61, 0x2E, 0x62] = .ok true := by rfl
example : Fn.IsValidUser [0x7E] = .ok false := by rfl

theorem tie_IsValidChannel : ∀ s : Bytes, Fn.IsValidChannel s = .ok (isValidChannel s) := Proofs.Trans.IsValidChannel_eq
example : Fn.IsValidChannel [0x23, 0x61, 0x62] = .ok true := by rfl
example : Fn.IsValidChannel [0x21, 0x41, 0x42, 0x43, 0x31, 0x32, 0x78] = .ok true := by rfl
example : Fn.IsValidChannel [0x21, 0x41, 0x42, 0x63, 0x31, 0x32, 0x78] = .ok false := by rfl

end Girc.Props.TieNames
