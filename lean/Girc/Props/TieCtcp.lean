import Girc.Proofs.TransCtcp
import Girc.Proofs.TransEvent
/-
  Tie (TieCtcp): the function bodies regenerated from the Go source on every run (Girc/Gen/Funcs.lean, written by
  tools/extract/translate.go) equal the hand-written models the property theorems of C14 are about, for ALL inputs.
  Proved in Girc/Proofs/Trans*.lean or, where the proof is short, below the statement; each with a non-vacuity example
  that evaluates the generated function on a literal. An edit of the Go function changes Funcs.lean and the equivalence stops building.
-/
namespace Girc.Props.TieCtcp
open Girc Girc.Model Girc.Gen

/-! ### ctcp.go -/

theorem tie_EncodeCTCPRaw : ∀ cmd text : Bytes, Fn.EncodeCTCPRaw cmd text = .ok (encodeCTCPRaw cmd text) :=
  Proofs.Trans.EncodeCTCPRaw_eq
example : Fn.EncodeCTCPRaw [0x50, 0x49] [0x78] = .ok [0x01, 0x50, 0x49, 0x20, 0x78, 0x01] := by rfl

theorem tie_DecodeCTCP : ∀ e : Event, Fn.DecodeCTCP (some e) = .ok (decodeCTCP e) := Proofs.Trans.DecodeCTCP_eq
theorem tie_DecodeCTCP_nil : Fn.DecodeCTCP none = .ok none := rfl
-- PRIVMSG x :\x01PING 1\x01
example : Fn.DecodeCTCP (some { command := PRIVMSG, params := [[0x78], [0x01, 0x50, 0x49, 0x4E, 0x47, 0x20, 0x31, 0x01]] }) =
    .ok (some { source := none, command := [0x50, 0x49, 0x4E, 0x47], text := [0x31], reply := false }) := by rfl

/-! ### event.go: the CTCP views of an event (models in Model/EventHelpers.lean) -/

theorem tie_Event_IsCTCP : ∀ e : Event, Fn.Event_IsCTCP (some e) = .ok (isCTCP e) := Proofs.Trans.Event_IsCTCP_eq
theorem tie_Event_IsAction : ∀ e : Event, Fn.Event_IsAction (some e) = .ok (isAction e) := Proofs.Trans.Event_IsAction_eq
theorem tie_Event_IsAction_nil : Fn.Event_IsAction none = .error .nilDeref := rfl
-- PRIVMSG #c :\x01ACTION waves\x01
example : Fn.Event_IsAction (some { command := PRIVMSG, params := [[0x23, 0x63],
    [0x01, 0x41, 0x43, 0x54, 0x49, 0x4F, 0x4E, 0x20, 0x77, 0x61, 0x76, 0x65, 0x73, 0x01]] }) = .ok true := by rfl

/-- `StripAction`: the model says `none` exactly where the Go code panics (`msg[8:len(msg)-1]` on the 8-byte message
    `\x01ACTION\x01`, which `IsAction` accepts). -/
theorem tie_Event_StripAction : ∀ e : Event,
    Fn.Event_StripAction (some e) = (match stripAction e with
                                     | some b => .ok b
                                     | none => .error .sliceBounds) := fun e => by
  unfold Fn.Event_StripAction stripAction
  simp only [gosem, Proofs.Trans.Event_IsAction_eq, Proofs.Trans.Event_Last_eq]
  cases isAction e
  · rfl
  · simp only [gosem]
    by_cases h : (eventLast e).length < 9
    · rw [if_pos h, sliceI, if_neg (by unfold Go.len; omega)]
    · have s : sliceI (eventLast e) 8 (Go.len (eventLast e) - 1) = _ :=
        Proofs.Trans.sliceI_ofNat (eventLast e) 8 ((eventLast e).length - 1) rfl (by unfold Go.len; omega) (by omega) (by omega)
      rw [if_neg h, s, List.dropLast_eq_take, List.length_drop, Nat.sub_right_comm]
example : Fn.Event_StripAction (some { command := PRIVMSG, params := [[0x23, 0x63],
    [0x01, 0x41, 0x43, 0x54, 0x49, 0x4F, 0x4E, 0x20, 0x77, 0x61, 0x76, 0x65, 0x73, 0x01]] }) =
    .ok [0x77, 0x61, 0x76, 0x65, 0x73] := by rfl
-- the bare ACTION panics
example : Fn.Event_StripAction (some { command := PRIVMSG, params := [[0x23, 0x63],
    [0x01, 0x41, 0x43, 0x54, 0x49, 0x4F, 0x4E, 0x01]] }) = .error .sliceBounds := by rfl
example : Fn.Event_StripAction (some { command := PRIVMSG, params := [[0x23, 0x63], [0x68, 0x69]] }) = .ok [0x68, 0x69] := by rfl

/-! ### ctcp.go: `EncodeCTCP`, `(*CTCP).parseCMD` (pure on its argument; the receiver is a dropped handle) -/

theorem tie_EncodeCTCP : ∀ c : CTCPEvent, Fn.EncodeCTCP (some c) = .ok (encodeCTCPRaw c.command c.text) :=
  Proofs.Trans.EncodeCTCP_eq
theorem tie_EncodeCTCP_nil : Fn.EncodeCTCP none = .ok [] := Proofs.Trans.EncodeCTCP_nil
example : Fn.EncodeCTCP (some { source := none, command := [0x50, 0x49], text := [0x78], reply := false }) =
    .ok [0x01, 0x50, 0x49, 0x20, 0x78, 0x01] := by rfl

theorem tie_CTCP_parseCMD : ∀ cmd : Bytes, Fn.CTCP_parseCMD cmd = .ok (ctcpParseCmd cmd) := Proofs.Trans.CTCP_parseCMD_eq
example : Fn.CTCP_parseCMD [0x70, 0x69, 0x6E, 0x67] = .ok [0x50, 0x49, 0x4E, 0x47] := by rfl   -- "ping" ↦ "PING"
example : Fn.CTCP_parseCMD [0x2A] = .ok [0x2A] := by rfl                                       -- the wildcard
example : Fn.CTCP_parseCMD [0x70, 0x2D] = .ok [] := by rfl                                     -- "p-" is rejected

end Girc.Props.TieCtcp
