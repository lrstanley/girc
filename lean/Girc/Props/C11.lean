import Girc.Proofs.SplitJoin
import Girc.Proofs.SplitMessage
import Girc.Gen.Facts
/- C11 — outgoing messages respect the line limit without losing content. Property theorems only. -/
namespace Girc.Props.C11
open Girc Girc.Model Girc.Spec

/-- Tie: constants of the splitter and the length defaults regenerated from the source. -/
theorem gen_constants : Gen.const_maxWordSplitLength = 30 ∧ Gen.const_defaultNickLength = 30 ∧ Gen.const_defaultUserLength = 18 ∧
    Gen.const_defaultHostLength = 63 ∧ Gen.const_defaultPrefixPadding = 4 ∧ Gen.const_DefaultMaxLineLength = 510 := by decide

/-- No empty piece is ever returned (for every text, width and oracle). -/
theorem split_no_empty (isURL : Bytes → Bool) (t : Bytes) (w : Nat) :
    ∀ p ∈ splitMessage isURL t w, p ≠ [] := by
  intro p hpm
  obtain ⟨l, _, hne, rfl⟩ := Proofs.SplitWords.mem_splitMessage.mp hpm
  exact Proofs.SplitUtf8.toValidUTF8_ne_nil _ _ hne

/-- Plain text, any width ≥ 4 (one UTF-8 character always fits): every piece is at most `w` BYTES. -/
theorem split_fits (isURL : Bytes → Bool) (t : Bytes) (w : Nat) (hp : plainText t = true) (hw : 4 ≤ w) :
    ∀ p ∈ splitMessage isURL t w, p.length ≤ w :=
  open Proofs.SplitFits Proofs.SplitPack Proofs.SplitWords Proofs.SplitUtf8 in by
  intro p hpm
  obtain ⟨l, hl, _, rfl⟩ := mem_splitMessage.mp hpm
  have := splitLoop_plain isURL w hw (fun _ => True) (fun _ out => ∀ l ∈ out, l.length ≤ w)
    (fun _ _ h => h) (fun _ out h => mem_concat out [] h (Nat.zero_le _))
    (fun _ front cur word _ _ h => packWord_fits isURL w hw _ front cur word
      (fun l hl => h l (List.mem_append_left _ hl)) (h cur (List.mem_append_right _ (List.mem_singleton_self _))))
    _ [] [[]] (fun wd hwd => ⟨words_plain t hp _ wd hwd, trivial⟩) (List.cons_ne_nil _ _)
    (fun l hl => by rw [List.mem_singleton.mp hl]; exact Nat.zero_le _) l hl
  exact Nat.le_trans (toValidUTF8_length_le _ _) this

/-- Plain text: the pieces' words, in order, are the original words, an over-long word possibly cut
    into consecutive chunks — for every oracle `isURL` and every width ≥ 4. (This also shows the
    recursion never runs out of fuel: lost fuel would lose content.) -/
theorem split_content (isURL : Bytes → Bool) (t : Bytes) (w : Nat) (hp : plainText t = true) (hw : 4 ≤ w) :
    Refines (pieceWords (splitMessage isURL t w)) (wordsOf t) :=
  Proofs.SplitContent.split_content isURL t w hp hw

/-- Every piece of a split event keeps the command, the leading parameters, the source and the tags. -/
theorem evsplit_header (isURL : Bytes → Bool) (e : Event) (maxLength : Int) :
    ∀ p ∈ eventSplit isURL e maxLength, p.command = e.command ∧ p.source = e.source ∧ p.tags = e.tags ∧
      p.params.dropLast = e.params.dropLast ∧ p.params.length = e.params.length := by
  intro p hp
  rcases Proofs.SplitEvent.eventSplit_shape isURL e maxLength with h | ⟨hlen, wrap, text, w, h, _⟩ <;>
    rw [h] at hp
  · rw [List.mem_singleton.mp hp]
    exact ⟨rfl, rfl, rfl, rfl, rfl⟩
  · obtain ⟨piece, _, rfl⟩ := List.mem_map.mp hp
    refine ⟨rfl, rfl, rfl, List.dropLast_concat, ?_⟩
    simp only [List.length_append, List.length_dropLast, List.length_singleton]
    omega

/-- A split CTCP message (ACTION …) keeps its wrapping on every piece. -/
theorem evsplit_ctcp (isURL : Bytes → Bool) (e : Event) (maxLength : Int) (c : CTCPEvent)
    (hc : decodeCTCP e = some c) (hsplit : eventSplit isURL e maxLength ≠ [e]) :
    ∀ p ∈ eventSplit isURL e maxLength, ∃ piece, p.params.getLastD [] = [ctcpDelim] ++ c.command ++ [SP] ++ piece ++ [ctcpDelim] := by
  intro p hp
  rcases Proofs.SplitEvent.eventSplit_shape isURL e maxLength with h | ⟨_, wrap, text, w, h, hw⟩
  · exact absurd h hsplit
  · rw [hc] at hw
    rw [h, hw] at hp
    obtain ⟨piece, _, rfl⟩ := List.mem_map.mp hp
    exact ⟨piece, List.getLastD_concat⟩

/-- Plain text (not CTCP) and room for at least 4 bytes of text: every piece, serialised without its
    source as the server limit is computed, is at most `maxLength` bytes. -/
theorem evsplit_fits (isURL : Bytes → Bool) (e : Event) (maxLength : Int)
    (hcmd : e.command = PRIVMSG ∨ e.command = NOTICE) (hne : e.params ≠ [])
    (hp : plainText (e.params.getLastD []) = true) (hnc : decodeCTCP e = none)
    (hroom : (eventLen { e with source := none, params := e.params.dropLast ++ [[]] } : Int) + 4 ≤ maxLength) :
    ∀ p ∈ eventSplit isURL e maxLength, p = e ∨ (eventLen { p with source := none } : Int) ≤ maxLength := by
  intro p hpm
  have _ := hcmd
  have _ := hne
  rcases Proofs.SplitEvent.eventSplit_shape isURL e maxLength with h | ⟨_, wrap, text, w, h, hw⟩ <;>
    rw [h] at hpm
  · exact Or.inl (List.mem_singleton.mp hpm)
  · rw [hnc] at hw
    obtain ⟨rfl, rfl, hw⟩ := hw
    obtain ⟨piece, hpiece, rfl⟩ := List.mem_map.mp hpm
    have hlen := split_fits isURL _ w hp (by omega) piece hpiece
    have hpl := Proofs.SplitEvent.paramsLen_concat_le piece e.params.dropLast
    simp only [eventLen, id] at hroom hw ⊢
    exact Or.inr (by omega)

/-- Join / List: every given channel is sent exactly once, in order … -/
theorem join_all_once (max : Int) (chans : List Bytes) (h : ∀ c ∈ chans, c ≠ [] ∧ 0x2C ∉ c) :
    (joinBatches max chans).flatMap (splitOnByte 0x2C) = chans :=
  Proofs.Split.join_all_once max chans h

/-- … in batches that fit, unless a single channel alone is too long. -/
theorem join_batches_fit (max : Int) (chans : List Bytes) :
    ∀ b ∈ joinBatches max chans, (b.length : Int) ≤ max ∨ b ∈ chans := by
  cases chans with
  | nil => exact fun _ hb => nomatch hb
  | cons ch rest =>
    exact Proofs.SplitJoin.batch_fit max (ch :: rest) rest ch (fun c hc => List.mem_cons_of_mem _ hc)
      (Or.inr List.mem_cons_self)

/-- MaxEventLength with the defaults: 512 − CRLF − (4 + 30 + 18 + 63) = 395. -/
theorem max_event_length_default (cfg : Cfg) : maxEventLength cfg {} = 512 - 2 - (4 + 30 + 18 + 63) := by
  unfold maxEventLength
  split <;> decide

/-- After an ISUPPORT line: the advertised LINELEN minus CRLF, and the prefix estimate from
    NICKLEN/MAXNICKLEN (NICKLEN as given, MAXNICKLEN only if larger), USERLEN/HOSTLEN (only if larger than
    the defaults), kept unchanged when it would not leave room. -/
theorem isupport_lengths (st : St) (e : Event) (h1 : isSuffixOfB sThisServer e.last = true) (h2 : 2 ≤ e.params.length) :
    let opts := ((e.params.drop 1).dropLast).foldl isupportItem st.serverOptions
    let oi (k : Bytes) : Option Int := (AMap.get? opts k).bind atoi
    let line : Int := (oi sLINELEN).getD st.maxLineLength
    let nick0 : Int := (oi sNICKLEN).getD 30
    let nick : Int := match oi sMAXNICKLEN with | some t => if t > nick0 then t else nick0 | none => nick0
    let user : Int := match oi sUSERLEN with | some t => if t > 18 then t else 18 | none => 18
    let host : Int := match oi sHOSTLEN with | some t => if t > 63 then t else 63 | none => 63
    (handleISUPPORT st e).maxLineLength = (match oi sLINELEN with | some t => t - 2 | none => st.maxLineLength) ∧
    (handleISUPPORT st e).maxPrefixLength = (if 4 + nick + user + host ≥ line then st.maxPrefixLength else 4 + nick + user + host) := by
  have h2' : ¬ (e.params.length < 2) := by omega
  unfold handleISUPPORT
  simp only [h1, Bool.not_true, Bool.false_eq_true, if_false, h2', optInt]
  generalize List.foldl isupportItem st.serverOptions (List.drop 1 e.params).dropLast = opts
  obtain ⟨oL, hL⟩ : ∃ oL, (AMap.get? opts sLINELEN).bind atoi = oL := ⟨_, rfl⟩
  simp only [hL, apply_ite St.maxLineLength, apply_ite St.maxPrefixLength, ite_self]
  cases oL <;> cases (AMap.get? opts sNICKLEN).bind atoi <;> exact ⟨rfl, rfl⟩

/-! Non-vacuity / regression witnesses of the repaired splitter -/
example : splitMessage (fun _ => true) [0x61,0x62,0x63,0x64,0x65,0x66,0x67,0x68,0x69] 10 = [[0x61,0x62,0x63,0x64,0x65,0x66,0x67,0x68,0x69]] := by decide +kernel
example : plainText [0x61, 0x20, 0xC3, 0xA9] = true := by decide +kernel

end Girc.Props.C11
