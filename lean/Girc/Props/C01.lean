import Girc.Proofs.Roundtrip
/-
  C01 — wire codec round trip. Property theorems only.
-/
namespace Girc.Props.C01
open Girc Girc.Model Girc.Spec

/-- Escaping is invertible: the decoder undoes the encoder on every byte string. -/
theorem decode_encode (v : Bytes) : tagDecode (tagEncode v) = v := by
  induction v with
  | nil => rfl
  | cons b v ih =>
    show tagDecode (tagEnc1 b ++ tagEncode v) = _
    rw [Proofs.Tags.tagDecode_enc1, ih]

/-- A tag read back through `Tags.Get` equals the value given to `Tags.Set`. -/
theorem tag_get_set (t t' : Tags) (k v : Bytes) (h : tagsSet t k v = some t') :
    tagsGet (some t') k = some v := by
  obtain ⟨_, _, _, rfl⟩ := Proofs.Tags.tagsSet_some t t' k v h
  simp [tagsGet, Proofs.InvBase.get?_set, decode_encode]

/-- Every map built by `Tags.Set` calls from the empty map satisfies the well-formedness the
    round trip needs. -/
theorem api_tags_wf_nil : wfTags [] = true := by decide
theorem api_tags_wf_set (t t' : Tags) (k v : Bytes) (hw : wfTags t = true) (h : tagsSet t k v = some t') :
    wfTags t' = true := Proofs.Tags.tagsSet_wf t t' k v hw h

/-- First sentence: parsing the serialised line of a well-formed event yields the same command,
    parameters, source and stored tag values … -/
theorem roundtrip_event (e : Event) (h : WFEvent e = true) :
    ∃ e', parseEvent (eventBytes e) = some e' ∧ EventEquiv e' e :=
  Proofs.Roundtrip.roundtrip_event e h

/-- … and hence `Tags.Get` after the round trip returns what `Tags.Get` returned before
    (which by `tag_get_set` is the value given to `Tags.Set`). -/
theorem roundtrip_get (e : Event) (h : WFEvent e = true) :
    ∃ e', parseEvent (eventBytes e) = some e' ∧ ∀ k, tagsGet (some (e'.tags.getD [])) k = tagsGet (some (e.tags.getD [])) k := by
  obtain ⟨e', hp, _, _, _, ht⟩ := roundtrip_event e h
  exact ⟨e', hp, fun k => by simp [tagsGet, ht k]⟩

/-- Second sentence: parse, serialise, parse again — same event. -/
theorem roundtrip_line (l : Line) (h : wfLine l = true) (hc : Proofs.Roundtrip.lineClean l = true) :
    ∃ e₁ e₂, parseEvent (render l) = some e₁ ∧ parseEvent (eventBytes e₁) = some e₂ ∧ EventEquiv e₂ e₁ :=
  Proofs.Roundtrip.roundtrip_line l h hc

/-! Non-vacuity: three params with a colon-leading, space-bearing last one, full source, a tag
    whose value contains all five escapable characters. -/
def sampleTags : Tags := ((tagsSet [] [0x6B] [0x3B, 0x20, 0x5C, 0x0D, 0x0A]).getD [])
def sampleEvent : Event :=
  { tags := some sampleTags
    source := some ⟨[0x6E], [0x75], [0x68]⟩
    command := [0x50, 0x52]
    params := [[0x23, 0x63], [0x78], [0x3A, 0x61, 0x20, 0x62]] }
example : WFEvent sampleEvent = true := by decide +kernel
example : sampleTags ≠ [] := by decide +kernel
example : tagsGet (some sampleTags) [0x6B] = some [0x3B, 0x20, 0x5C, 0x0D, 0x0A] := by decide +kernel

end Girc.Props.C01
