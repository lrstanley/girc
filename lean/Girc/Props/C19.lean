import Girc.Model.Glob
import Girc.Spec.GlobSpec
import Girc.Proofs.Glob
/-
  C19 — Glob implements exact '*' wildcard matching.
  Property theorems only; helper lemmas live in Proofs/Glob.lean.
-/
namespace Girc.Props.C19
open Girc Girc.Model

/-- Main theorem: for all inputs and patterns (arbitrary bytes, any number of stars,
    consecutive stars, empty pieces) the model of `Glob` decides the specification. -/
theorem glob_correct (input pat : Bytes) : glob input pat = true ↔ Spec.Matches input pat :=
  Proofs.Glob.glob_correct input pat

/-- The executable reference matcher used by the driver decides the same relation. -/
theorem wmatch_correct (input pat : Bytes) : Spec.wmatch pat input = true ↔ Spec.Matches input pat :=
  Proofs.Glob.wmatch_iff pat input

/-- Hence model and reference matcher agree everywhere. -/
theorem glob_eq_wmatch (input pat : Bytes) : glob input pat = Spec.wmatch pat input := by
  have h1 := glob_correct input pat
  have h2 := wmatch_correct input pat
  cases hg : glob input pat <;> cases hw : Spec.wmatch pat input <;> simp_all

/-- Regression witnesses of the repaired defect (prefix piece must not overlap the suffix piece). -/
example : glob [0x61] [0x61, 0x2A, 0x61] = false := by decide +kernel
example : glob [0x61, 0x62] [0x61, 0x62, 0x2A, 0x62] = false := by decide +kernel
example : ¬ Spec.Matches [0x61] [0x61, 0x2A, 0x61] := by
  rw [← glob_correct]; decide +kernel
/-- Non-vacuity: a non-trivial positive instance with two stars and a repeated substring. -/
example : Spec.Matches [0x61, 0x62, 0x61, 0x62, 0x63] [0x61, 0x2A, 0x62, 0x2A, 0x63] := by
  rw [← glob_correct]; decide +kernel

end Girc.Props.C19
