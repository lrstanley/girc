import Girc.Proofs.TransEvent
import Girc.Proofs.TransFormat
/-
  Tie (TieSplit): the function bodies regenerated from the Go source on every run (Girc/Gen/Funcs.lean, written by
  tools/extract/translate.go) equal the hand-written models the property theorems of C11 are about, for ALL inputs.
  Proved in Girc/Proofs/Trans*.lean or, where the proof is short, below the statement; each with a non-vacuity example
  that evaluates the generated function on a literal. An edit of the Go function changes Funcs.lean and the equivalence stops building.

  `splitMessage` is NOT translated: `Fn.Event_split` calls the designated model function `Model.splitMessageGo isURL`
  (translate.go `modelCalleeTable`; `isURL` = the oracle `url.Parse(word) == nil`, a parameter).  The tie is therefore
  "the event side of `(*Event).split` (which events are left alone, the width handed to the text splitter, the CTCP
  wrapping, the clones) is the model's `eventSplit`, for every oracle"; the text splitter itself is compared with Go by
  the harness' C11 correspondence stream.  A `*Event` is a value (`Option Event`): where Go returns the pointer `e`
  itself the theorem says `some e`; pointer identity is outside the value model.
-/
namespace Girc.Props.TieSplit
open Girc Girc.Model Girc.Gen

/-! ### event.go -/

/-- The hypothesis is the representation invariant of a Go map (an association list with unique keys): `Copy` rebuilds
    the tag map entry by entry. -/
theorem tie_Event_split : ∀ (isURL : Bytes → Bool) (e : Event), (∀ m, e.tags = some m → (AMap.keys m).Nodup) →
    ∀ maxLength : Int, Fn.Event_split isURL (some e) maxLength = .ok ((eventSplit isURL e maxLength).map some) :=
  Proofs.Trans.Event_split_eq
theorem tie_Event_split_nil : ∀ (isURL : Bytes → Bool) (m : Int), Fn.Event_split isURL none m = .error .nilDeref :=
  fun _ _ => rfl
-- PRIVMSG #c :aaaa bbbb cccc  with maxLength 20 ("PRIVMSG #c :" is 12 bytes): three events
example : Fn.Event_split (fun _ => false) (some { command := PRIVMSG, params := [[0x23, 0x63],
      [0x61, 0x61, 0x61, 0x61, 0x20, 0x62, 0x62, 0x62, 0x62, 0x20, 0x63, 0x63, 0x63, 0x63]] }) 20 =
    .ok [some { command := PRIVMSG, params := [[0x23, 0x63], [0x61, 0x61, 0x61, 0x61]] },
         some { command := PRIVMSG, params := [[0x23, 0x63], [0x62, 0x62, 0x62, 0x62]] },
         some { command := PRIVMSG, params := [[0x23, 0x63], [0x63, 0x63, 0x63, 0x63]] }] := by rfl
-- a short event is returned as it is
example : Fn.Event_split (fun _ => false) (some { command := PRIVMSG, params := [[0x23, 0x63], [0x61]] }) 510 =
    .ok [some { command := PRIVMSG, params := [[0x23, 0x63], [0x61]] }] := by rfl

/-! ### format.go -/

/-- `sliceInsert` for EVERY content of the spare capacity of `input` (both the in-place and the allocating branch). -/
theorem tie_sliceInsert : ∀ (spare input : List Bytes) (i : Int) (v : List Bytes),
    Fn.sliceInsert spare input i v = Model.sliceInsert input i v := Proofs.Trans.sliceInsert_eq
example : Fn.sliceInsert [] [[0x61], [0x62]] 1 [[], [0x63]] = .ok [[0x61], [], [0x63], [0x62]] := by rfl
example : Fn.sliceInsert [[0x7A], [0x7A], [0x7A]] [[0x61], [0x62]] 1 [[], [0x63]] = .ok [[0x61], [], [0x63], [0x62]] := by rfl
example : Fn.sliceInsert [] [[0x61]] 2 [[0x63]] = .error .sliceBounds := by rfl

/-- One step of the newline pass of `splitMessage` has the shape of the model's `expandNewlines`. -/
theorem tie_sliceInsert_newline_step : ∀ (pre rest : List Bytes) (w head tail : Bytes),
    Model.sliceInsert ((pre ++ w :: rest).set pre.length head) ((pre.length : Int) + 1) [[], tail] =
      .ok (pre ++ head :: [] :: tail :: rest) := Proofs.Trans.sliceInsert_newline_step

end Girc.Props.TieSplit
