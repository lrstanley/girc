import Girc.Proofs.DispInv
import Girc.Gen.Skel
import Girc.Spec.Skeletons
/- C06 — handler dispatch is exactly-once, ordered and correctly routed. Property theorems only.
   The model (Model/Dispatch.lean) is an interleaving transition system of the dispatcher, registrar
   goroutines, spawned handler goroutines, temporary-handler wrappers and deadline goroutines; every
   theorem quantifies over ALL reachable states, i.e. all interleavings of event streams with
   Add/AddBg/AddHandler/AddTmp/Remove/Clear/ClearAll and handlers that return, return true, or panic. -/
namespace Girc.Props.C06
open Girc Girc.Model.Disp

/-! ### the code the model was written against is the code in the tree (regenerated on every run) -/
theorem skel_RunHandlers : Gen.skel_RunHandlers = Spec.Skel.skel_RunHandlers := rfl
theorem skel_exec : Gen.skel_exec = Spec.Skel.skel_exec := rfl
theorem skel_register : Gen.skel_register = Spec.Skel.skel_register ∧ Gen.skel_sregister = Spec.Skel.skel_sregister := ⟨rfl, rfl⟩
theorem skel_remove : Gen.skel_remove = Spec.Skel.skel_remove ∧ Gen.skel_Remove = Spec.Skel.skel_Remove ∧
    Gen.skel_cuidToID = Spec.Skel.skel_cuidToID := ⟨rfl, rfl, rfl⟩
theorem skel_Clear : Gen.skel_Clear = Spec.Skel.skel_Clear ∧ Gen.skel_ClearAll = Spec.Skel.skel_ClearAll := ⟨rfl, rfl⟩
theorem skel_AddTmp : Gen.skel_AddTmp = Spec.Skel.skel_AddTmp := rfl
theorem skel_Add : Gen.skel_Add = Spec.Skel.skel_Add ∧ Gen.skel_AddBg = Spec.Skel.skel_AddBg ∧
    Gen.skel_AddHandler = Spec.Skel.skel_AddHandler := ⟨rfl, rfl, rfl⟩
theorem skel_recover : Gen.skel_recoverHandlerPanic = Spec.Skel.skel_recoverHandlerPanic := rfl
theorem skel_execLoop : Gen.skel_execLoop = Spec.Skel.skel_execLoop := rfl
theorem skel_readLoop : Gen.skel_readLoop = Spec.Skel.skel_readLoop := rfl
/-- the echo flag is decided right before dispatch, from the nick in force then -/
theorem skel_setEcho : Gen.skel_setEcho = Spec.Skel.skel_setEcho := rfl

/-! ### routing -/

/-- Whatever is invoked is a handler registered for that event's command (and the event is not an
    echo), or a wildcard handler: echoes go to wildcard handlers only, nothing goes to anyone else. -/
theorem routing (s : DState) (h : Reach s) :
    ∀ i ∈ s.spawned, ∃ e ∈ s.registry, ∃ ev ∈ s.events, e.id = i.id ∧ ev.seq = i.seq ∧ routeOK e ev = true :=
  Proofs.Disp.routing h

/-- Registration is case-insensitive. -/
theorem add_case_insensitive (s : DState) (cmd : Bytes) (bg tmp : Bool) :
    step s (.add cmd bg tmp) = step s (.add (toUpperAscii cmd) bg tmp) := by
  simp only [step, Proofs.Disp.toUpper_idem]

/-- The four phases of RunHandlers select exactly the handlers that should see an event. -/
theorem phases_cover (e : Entry) (ev : Evt) (hc : ev.cmd ≠ star) :
    routeOK e ev = true ↔ ∃ (k : Nat) (ph : Phase), phases[k]? = some ph ∧ ph.sel ev e = true ∧ (ph.skipEcho && ev.echo) = false :=
  have _ := hc
  Proofs.Disp.phases_cover e ev

/-! ### exactly once -/

/-- No handler is invoked twice for the same event. -/
theorem at_most_once (s : DState) (h : Reach s) : (s.spawned.map fun i => (i.id, i.seq)).Nodup := Proofs.Disp.at_most_once h

/-- A handler that is registered at every snapshot of an event's dispatch (in particular: registered
    before the dispatch starts and not removed before it ends) and should see the event has been
    invoked for it — once, by `at_most_once` — when RunHandlers returns, and has returned if it is a
    foreground handler. -/
theorem exactly_once (s : DState) (h : Reach s) (seq : Nat) (hs : seq ∈ s.ended) (ev : Evt) (hev : ev ∈ s.events)
    (hseq : ev.seq = seq) (e : Entry) (hin : ∀ k t, (seq, k, t) ∈ s.snaps → e ∈ t) (hr : routeOK e ev = true) :
    ∃ i ∈ s.spawned, i.id = e.id ∧ i.seq = seq ∧ (e.bg = false → i ∈ s.finished) :=
  Proofs.Disp.exactly_once h seq hs ev hev hseq e hin hr

theorem started_finished (s : DState) (h : Reach s) :
    (∀ i ∈ s.started, i ∈ s.spawned) ∧ (∀ i ∈ s.finished, i ∈ s.started) ∧ s.started.Nodup ∧ s.finished.Nodup ∧
    (∀ i ∈ s.spawned, i ∈ s.pending ∨ i ∈ s.running ∨ i ∈ s.finished) :=
  have g := (Proofs.Disp.good_of_reach h).book
  ⟨g.start_sp, g.fin_start, g.start_nodup, g.fin_nodup, g.cover⟩

/-! ### ordering -/

/-- Events are dispatched in the order received. -/
theorem fifo (s : DState) (h : Reach s) :
    s.events.map (·.seq) = List.range s.nextSeq ∧
    s.ended ++ (match s.pc with | .at ev _ _ => [ev.seq] | .idle => []) ++ s.queue.map (·.seq) = s.events.map (·.seq) ∧
    (∀ ev k w, s.pc = .at ev k w → ev ∈ s.events) ∧ (∀ ev ∈ s.queue, ev ∈ s.events) := by
  have g := (Proofs.Disp.good_of_reach h).ev
  refine ⟨g.seqs, ?_, fun ev k w hpc => g.cur_mem ev (by rw [hpc]; rfl), g.q_mem⟩
  have := g.fifo
  cases hpc : s.pc <;> simpa [hpc, Proofs.Disp.pcEv] using this

/-- When the dispatcher takes event N+1, every foreground handler of every earlier event has
    returned: foreground handlers for event N have all returned before any handler sees N+1. -/
theorem take_after_fg (s s' : DState) (h : Reach s) (hs : step s .take = some s') :
    ∀ i ∈ s.spawned, i.bg = false → i ∈ s.finished := by
  obtain ⟨ev, rest, hpc, _, _⟩ := Proofs.Disp.step_take hs
  exact fun i hi hbg => (Proofs.Disp.good_of_reach h).fg.none_out (fun _ _ _ hh => by rw [hpc] at hh; cases hh) hi hbg

theorem fg_current (s : DState) (h : Reach s) :
    ∀ i, i ∈ s.pending ∨ i ∈ s.running → i.bg = false → ∃ ev k w, s.pc = .at ev k w ∧ i.seq = ev.seq ∧ i.id ∈ w :=
  fun i hi hbg =>
    have g := Proofs.Disp.good_of_reach h
    have ⟨ev, k, w, h1, h2, h3, _⟩ := g.fg.out_fg i (g.book.outstanding hi).1 (g.book.outstanding hi).2 hbg
    ⟨ev, k, w, h1, h2, h3⟩

/-! ### removal, temporary handlers, done channels -/

/-- A handler taken out of the table never comes back (ids are never reused) … -/
theorem removed_gone (s : DState) (h : Reach s) : ∀ id ∈ s.removed, hasId s.table id = false :=
  fun id hid => ((Proofs.Disp.good_of_reach h).ids.rem id hid).2

/-- … and a snapshot only dispatches to handlers in the table at that instant: after Remove returned,
    after Clear/ClearAll, after a temporary handler that returned true was removed, after a deadline
    passed, the handler is never dispatched to again. (A background invocation already spawned by an
    EARLIER snapshot may still start — the code's design; see DESIGN.md O4.) -/
theorem no_dispatch_after_removal (s s' : DState) (h : Reach s) (hs : step s .snap = some s') :
    ∀ i ∈ s'.spawned, i ∉ s.spawned → hasId s.table i.id = true ∧ i.id ∉ s.removed :=
  by
  obtain ⟨ev, k, ph, _, _, rfl⟩ := Proofs.Disp.step_snap hs
  intro i hi hni
  rcases List.mem_append.mp hi with hi | hi
  · exact absurd hi hni
  · obtain ⟨e, he, _, _, rfl⟩ := Proofs.Disp.mem_snapInvs.mp hi
    have hid : hasId s.table e.id = true := Proofs.Disp.hasId_eq_true.mpr ⟨e, he, rfl⟩
    refine ⟨hid, fun hrem => ?_⟩
    have := ((Proofs.Disp.good_of_reach h).ids.rem e.id hrem).2
    rw [hid] at this; cases this

theorem tmp_removed (s s' : DState) (id : Nat) (hs : step s (.tmpRemove id) = some s') : hasId s'.table id = false :=
  by
  obtain ⟨_, ⟨_, rfl⟩ | ⟨_, rfl⟩⟩ := Proofs.Disp.step_tmpRemove hs
  · assumption
  · exact Proofs.Disp.hasId_eraseId _ _

theorem deadline_removed (s s' : DState) (id : Nat) (hs : step s (.deadline id) = some s')
    (ht : ∃ e ∈ s.table, e.id = id ∧ e.tmp = true) : hasId s'.table id = false :=
  by
  obtain ⟨e, he, h1, h2⟩ := ht
  rcases Proofs.Disp.step_deadline hs with ⟨hn, _⟩ | ⟨_, _, rfl⟩
  · refine absurd ?_ hn
    simp only [Bool.and_eq_true, List.any_eq_true, beq_iff_eq]
    exact ⟨Proofs.Disp.hasId_eq_true.mpr ⟨e, he, h1⟩, e, he, h1, h2⟩
  · exact Proofs.Disp.hasId_eraseId _ _

/-- done channels are closed at most once (no double-close panic whichever of the wrapper, the
    deadline goroutine and Remove wins), only for temporary handlers, and only with the removal. -/
theorem done_once (s : DState) (h : Reach s) :
    s.doneClosed.Nodup ∧ ∀ id ∈ s.doneClosed, id ∈ s.removed ∧ ∃ e ∈ s.registry, e.id = id ∧ e.tmp = true :=
  have g := (Proofs.Disp.good_of_reach h).ids
  ⟨g.done_nodup, g.done_sub⟩

/-! ### panics -/

/-- With a recover function a panicking handler never takes the client down, and the dispatcher can
    always go on (the WaitGroup is released by `defer wg.Done()`), so later events are delivered. -/
theorem recover_no_crash (s : DState) (h : Reach s) (hr : s.recover = true) : s.crashed = false :=
  (Proofs.Disp.good_of_reach h).recov hr

theorem progress (s : DState) (h : Reach s) (hc : s.crashed = false) :
    (s.pc = .idle ∧ s.queue = []) ∨
    (∃ a, (a = .take ∨ a = .snap ∨ a = .endEvent ∨ (∃ i, a = .startInv i) ∨ (∃ i, a = .finishInv i .normal)) ∧
      (step s a).isSome = true) := Proofs.Disp.progress h hc

/-! ### the sequential reading used by the correspondence check -/
theorem dispatchIds_spec (t : List Entry) (ev : Evt) (hc : ev.cmd ≠ star) (id : Nat) :
    id ∈ dispatchIds t ev ↔ ∃ e ∈ t, e.id = id ∧ routeOK e ev = true := by
  have _ := hc
  unfold dispatchIds
  rw [List.mem_map]
  constructor
  · rintro ⟨e, he, rfl⟩
    rw [Proofs.Disp.mem_dispatch] at he
    exact ⟨e, he.1, rfl, he.2⟩
  · rintro ⟨e, he, rfl, hr⟩
    exact ⟨e, Proofs.Disp.mem_dispatch.mpr ⟨he, hr⟩, rfl⟩

theorem dispatchIds_nodup (t : List Entry) (ev : Evt) (hc : ev.cmd ≠ star) (hn : (t.map (·.id)).Nodup) :
    (dispatchIds t ev).Nodup := Proofs.Disp.dispatchIds_nodup t ev hc hn

/-! ### non-vacuity -/
def P : Bytes := [0x50]  -- a command "P"
example : (run {} [.add [0x70] false false, .add star true false, .recv P false, .take, .snap,
      .startInv ⟨1, 0, 0, true⟩, .snap, .snap, .snap, .startInv ⟨0, 0, 3, false⟩, .finishInv ⟨0, 0, 3, false⟩ .panic,
      .endEvent, .remove 0, .recv P true, .take, .snap, .snap, .snap, .snap, .endEvent]).map
      (fun s => (s.spawned.map (fun i => (i.id, i.seq)), s.ended, s.crashed)) =
    some ([(1, 0), (0, 0), (1, 1)], [0, 1], false) := by decide +kernel

end Girc.Props.C06
