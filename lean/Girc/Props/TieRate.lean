import Girc.Proofs.TransSaslConn
/-
  Tie (TieRate, C16): conn.go `(*ircConn).rate` regenerated from the Go source computes exactly the limiter part of the
  outgoing-path model's `sendPiece false` (Model/SendPath.lean): the returned delay, the new `writeDelay` and the new
  `lastDue`.  TRUSTED mapping (TRANSLATOR_NOTES §3): `time.Time` and `time.Duration` are integer nanoseconds, `time.Now()` is
  the explicit parameter `now`, `a.After(b)` is `a > b`, `a.Sub(b)` is `a - b`, `a.Add(d)` is `a + d`, `time.Second` is
  10^9, `/` is truncated division (`Int.tdiv`).
-/
namespace Girc.Props.TieRate
open Girc Girc.Model Girc.Gen
open Girc.Proofs.Trans (connSince connOf)

theorem tie_ircConn_rate : ∀ (c : IrcConn) (now : Int) (n : Nat),
    Fn.ircConn_rate now (some c) (n : Int) = .ok
      ((rate c.writeDelay (connSince c now) n).2,
       some { c with writeDelay := (rate c.writeDelay (connSince c now) n).1,
                     lastDue := now + (rate c.writeDelay (connSince c now) n).2 }) := Proofs.Trans.ircConn_rate_eq
theorem tie_ircConn_rate_sendPiece : ∀ {α : Type} (s : SendSt α) (now : Int) (e : α) (n : Nat),
    Fn.ircConn_rate now (some (connOf s)) (n : Int) = .ok
      ((sendPiece false s now e n).2, some (connOf (sendPiece false s now e n).1)) := fun s now e n => by
  rw [Proofs.Trans.ircConn_rate_eq, show connSince (connOf s) now = sinceOf s now from rfl]
  rfl
theorem tie_ircConn_rate_nil : ∀ now chars : Int, Fn.ircConn_rate now none chars = .error .nilDeref :=
  fun _ _ => rfl
-- 100 bytes cost 2 s; 7.5 s of debt, 1 s elapsed since the last write: 8.5 s > 8 s, so the caller sleeps 2 s
example : Fn.ircConn_rate 11000000000 (some { lastWrite := 10000000000, lastDue := 0, writeDelay := 7500000000 }) 100 =
    .ok (2000000000, some { lastWrite := 10000000000, lastDue := 13000000000, writeDelay := 8500000000 }) := by rfl
example : Fn.ircConn_rate 11000000000 (some { lastWrite := 10000000000, lastDue := 0, writeDelay := 0 }) 100 =
    .ok (0, some { lastWrite := 10000000000, lastDue := 11000000000, writeDelay := 1000000000 }) := by rfl

end Girc.Props.TieRate
