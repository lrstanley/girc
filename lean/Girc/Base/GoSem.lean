import Girc.Base.AMap
import Girc.Base.GoLib
import Girc.Base.Utf8
/-
  GoSem: the small run-time the GENERATED code of `Girc/Gen/Funcs.lean` (written by
  tools/extract/translate.go) is expressed in.  Core Lean only; linked into the compiled driver.

  Part 1 (namespace `Girc.Model`) holds the data types and the checked index/slice primitives that
  used to be declared in Model/Tags.lean, Model/Event.lean and Model/Ctcp.lean.  They were moved
  here — with unchanged fully-qualified names — so that the generated file can import Girc/Base only
  and still talk about the very same `Event`/`Source`/`Fault` the hand-written models use.

  Part 2 (namespace `Girc.Go`) is new: short-circuit connectives over `Except Fault`, loop results,
  checked list operations, and the NAMED models of the Go standard-library calls the translator maps
  (each with the assumed Go behaviour in its doc comment).

  Representation: Go `string`/`[]byte` ↦ `Bytes`, `byte` ↦ `UInt8` (wrap-around arithmetic), `int` ↦ `Int`
  (unbounded: 64-bit overflow is NOT modelled — every int in the translated functions is bounded by
  a length), `bool` ↦ `Bool`, `[]string` ↦ `List Bytes`, `*T` ↦ `Option T`, `map[string]string` ↦
  `Option (AMap Bytes)` (nil map = `none`).  A Go run-time panic is an explicit `Except.error`.
-/
namespace Girc.Model

/-- Go map `Tags`; `none` models the nil map. Values are kept in their escaped wire form. -/
abbrev Tags := AMap Bytes

structure Source where
  name : Bytes
  ident : Bytes
  host : Bytes
  deriving DecidableEq, Repr

structure Event where
  tags : Option Tags := none
  source : Option Source := none
  command : Bytes
  params : List Bytes := []
  deriving DecidableEq, Repr

structure CTCPEvent where
  source : Option Source
  command : Bytes
  text : Bytes
  reply : Bool
  deriving DecidableEq, Repr

/-- One channel mode change / stored mode (modes.go `CMode`). -/
structure CMode where
  add : Bool
  name : Byte
  setting : Bool
  args : Bytes
  deriving DecidableEq, Repr

/-- modes.go `CModes`.  The generated code reads the string fields only (Go names `modesListArgs`, `modesArgs`,
    `modesSetArgs`, `modesNoArgs` ↦ `listArgs`, `argsM`, `setArgs`, `noArgs`). -/
structure CModes where
  raw : Bytes
  listArgs : Bytes      -- CHANMODES class A
  argsM : Bytes         -- class B
  setArgs : Bytes       -- class C
  noArgs : Bytes        -- class D
  prefixes : Bytes      -- PREFIX mode letters
  modes : List CMode
  deriving DecidableEq, Repr

/-- modes.go `Perms` (moved here from Model/Modes.lean; Go fields `Owner`, `Admin`, `Op`, `HalfOp`, `Voice`). -/
structure Perms where
  owner : Bool := false
  admin : Bool := false
  op : Bool := false
  halfop : Bool := false
  voice : Bool := false
  deriving DecidableEq, Repr, Inhabited

/-- state.go `User` (moved here from Model/State.lean).  The generated code knows `Nick`, `Ident`, `Host` and
    `ChannelList` (↦ `chans`); `perms` models the `*UserPerms` object, which translated code never touches. -/
structure User where
  nick : Bytes
  ident : Bytes := []
  host : Bytes := []
  chans : List Bytes := []          -- ChannelList: folded names, sorted
  perms : AMap Perms := []          -- Perms.channels: keyed by folded channel name
  name : Bytes := []                -- Extras.Name
  account : Bytes := []
  away : Bytes := []
  deriving DecidableEq, Repr

/-- state.go `Channel` (moved here from Model/State.lean; Go `UserList` ↦ `users`; `Joined` is outside the model). -/
structure Channel where
  name : Bytes
  topic : Bytes := []
  users : List Bytes := []          -- UserList: folded nicks, sorted
  modes : CModes
  deriving DecidableEq, Repr

/-- cap_sasl.go `SASLPlain` / `SASLExternal`. -/
structure SASLPlain where
  user : Bytes
  pass : Bytes
  deriving DecidableEq, Repr

structure SASLExternal where
  identity : Bytes
  deriving DecidableEq, Repr

/-- The limiter fields of conn.go `ircConn`.  `time.Time` and `time.Duration` are both integer nanoseconds. -/
structure IrcConn where
  lastWrite : Int := 0
  lastDue : Int := 0
  writeDelay : Int := 0
  deriving DecidableEq, Repr

/-- state.go `strictTransport` (phase 4; `time.Time` = integer nanoseconds).  The hand-written timed model is
    `Model/StsTime.lean`'s `TSts` (`stsOf`, `tstsOf` map this record to it); `Props/TieSts.lean` relates the two. -/
structure StrictTransport where
  beginUpgrade : Bool := false
  upgradePort : Int := 0
  persistenceDuration : Int := 0
  persistenceReceived : Int := 0
  preload : Bool := false
  lastFailed : Int := 0
  deriving DecidableEq, Repr

/-- Go run-time failures.  `nilMap`: assignment to an entry of a nil map.  `diverge`: a fuel-bounded loop ran out of fuel.  `unsupported`: emitted by
    the translator (fail-closed) for a target function that is missing or outside the Go subset, and by
    run-time models for arguments outside their modelled domain. -/
inductive Fault where
  | indexOutOfRange | sliceBounds | nilDeref | diverge
  | nilMap
  | unsupported (why : String)
  deriving DecidableEq, Repr

/-- Go `s[lo:hi]` on a string / byte slice (capacity is not modelled: `hi ≤ len`). -/
def sliceI (s : Bytes) (lo hi : Int) : Except Fault Bytes :=
  if 0 ≤ lo ∧ lo ≤ hi ∧ hi ≤ s.length then .ok ((s.drop lo.toNat).take (hi - lo).toNat)
  else .error .sliceBounds

/-- Go `s[i]` on a string / byte slice. -/
def atI (s : Bytes) (i : Int) : Except Fault Byte :=
  if 0 ≤ i ∧ i < s.length then
    match s[i.toNat]? with
    | some b => .ok b
    | none => .error .indexOutOfRange
  else .error .indexOutOfRange

/-- `strings.IndexByte(s, b)` / `bytes.IndexByte(s, b)`: index of the first `b`, or -1. -/
def indexByteI (s : Bytes) (b : Byte) : Int :=
  match indexOf b s with
  | none => -1
  | some n => n

/-! ### The regular expression `reColor` = `\x03([019]?\d(,[019]?\d)?)`, hand-matched (moved here from Model/Format.lean)

TRUSTED table entry of the translator (`regexDeleteTable`): `reColor.ReplaceAllString(s, "")` ↦ `stripColor s`. -/

def COMMA : Byte := 0x2C

def isDigitB (b : Byte) : Bool := 0x30 ≤ b && b ≤ 0x39
def is019 (b : Byte) : Bool := b = 0x30 || b = 0x31 || b = 0x39

/-- `[019]?\d` at the head (greedy with backtracking): number of bytes consumed. -/
def colorNum : Bytes → Option Nat
  | a :: b :: _ => if is019 a && isDigitB b then some 2 else if isDigitB a then some 1 else none
  | [a] => if isDigitB a then some 1 else none
  | [] => none

/-- `[019]?\d(,[019]?\d)?` at the head: number of bytes consumed. -/
def colorArgs (s : Bytes) : Option Nat :=
  match colorNum s with
  | none => none
  | some n =>
    match s.drop n with
    | c :: rest => if c = COMMA then
        match colorNum rest with
        | some m => some (n + 1 + m)
        | none => some n
      else some n
    | [] => some n

/-- `reColor.ReplaceAllString(text, "")`. -/
def stripColorFuel : Nat → Bytes → Bytes
  | 0, s => s
  | _, [] => []
  | n + 1, b :: rest =>
    if b = 0x03 then
      match colorArgs rest with
      | some k => stripColorFuel n (rest.drop k)
      | none => b :: stripColorFuel n rest
    else b :: stripColorFuel n rest

def stripColor (s : Bytes) : Bytes := stripColorFuel (s.length + 1) s

/-- What a handler / command helper does to the outside world (moved here from Model/Cap.lean): the translator turns a
    call of a designated sink (`c.write`, `c.Send`, `c.receive`) into an append to an output list of these. -/
inductive Out where
  | write (e : Event)      -- `c.write`: straight into the send queue
  | send (e : Event)       -- `c.Send`: format / split / flood control, then the send queue
  | inject (e : Event)     -- `c.receive`: back into the receive queue (local ERROR events)
  | close                  -- `c.Close()`
  deriving Repr

/-! ### `base64.StdEncoding.EncodeToString` (moved here from Model/Sasl.lean) — TRUSTED stdlib table entry. -/

def b64Char (n : Nat) : Byte :=
  if n < 26 then UInt8.ofNat (0x41 + n)
  else if n < 52 then UInt8.ofNat (0x61 + (n - 26))
  else if n < 62 then UInt8.ofNat (0x30 + (n - 52))
  else if n = 62 then 0x2B else 0x2F

/-- `base64.StdEncoding.EncodeToString` (RFC 4648 with padding). -/
def b64Encode : Bytes → Bytes
  | a :: b :: c :: rest =>
    let n := a.toNat * 65536 + b.toNat * 256 + c.toNat
    b64Char (n / 262144) :: b64Char (n / 4096 % 64) :: b64Char (n / 64 % 64) :: b64Char (n % 64) :: b64Encode rest
  | [a, b] =>
    let n := a.toNat * 65536 + b.toNat * 256
    [b64Char (n / 262144), b64Char (n / 4096 % 64), b64Char (n / 64 % 64), 0x3D]
  | [a] =>
    let n := a.toNat * 65536
    [b64Char (n / 262144), b64Char (n / 4096 % 64), 0x3D, 0x3D]
  | [] => []

end Girc.Model

namespace Girc.Go
open Girc Girc.Model

/-- Result of running a translated `for` loop: it fell out (`done`, with the values of the variables
    that are live after the loop) or the function returned from inside it (`ret`). -/
inductive LoopR (σ ρ : Type) where
  | done (s : σ)
  | ret (r : ρ)
  deriving DecidableEq, Repr

/-- Go `len(x)` as an `int`. -/
def len {α : Type} (s : List α) : Int := s.length

/-- Go `a && b` when an operand can panic: `b` is looked at only if `a` is `true`. -/
def andE (a b : Except Fault Bool) : Except Fault Bool :=
  match a with
  | .ok x => if x then b else .ok false
  | .error e => .error e

/-- Go `a || b` when an operand can panic: `b` is looked at only if `a` is `false`. -/
def orE (a b : Except Fault Bool) : Except Fault Bool :=
  match a with
  | .ok x => if x then .ok true else b
  | .error e => .error e

@[simp] theorem andE_ok_ok (x y : Bool) : andE (.ok x) (.ok y) = .ok (x && y) := by cases x <;> rfl
@[simp] theorem orE_ok_ok (x y : Bool) : orE (.ok x) (.ok y) = .ok (x || y) := by cases x <;> rfl
@[simp] theorem andE_false (b : Except Fault Bool) : andE (.ok false) b = .ok false := rfl
@[simp] theorem andE_true (b : Except Fault Bool) : andE (.ok true) b = b := rfl
@[simp] theorem orE_true (b : Except Fault Bool) : orE (.ok true) b = .ok true := rfl
@[simp] theorem orE_false (b : Except Fault Bool) : orE (.ok false) b = b := rfl

/-- Go `*p` / `p.f` on a pointer: nil dereference panics. -/
def deref {α : Type} (p : Option α) : Except Fault α :=
  match p with
  | some v => .ok v
  | none => .error .nilDeref

@[simp] theorem deref_some {α : Type} (v : α) : deref (some v) = .ok v := rfl
@[simp] theorem deref_none {α : Type} : deref (none : Option α) = .error .nilDeref := rfl

/-- Go `s[i]` on a `[]string`. -/
def atL (s : List Bytes) (i : Int) : Except Fault Bytes :=
  if 0 ≤ i ∧ i < s.length then
    match s[i.toNat]? with
    | some b => .ok b
    | none => .error .indexOutOfRange
  else .error .indexOutOfRange

/-- Go `s[lo:hi]` on a `[]string` (capacity not modelled). -/
def sliceL (s : List Bytes) (lo hi : Int) : Except Fault (List Bytes) :=
  if 0 ≤ lo ∧ lo ≤ hi ∧ hi ≤ s.length then .ok ((s.drop lo.toNat).take (hi - lo).toNat)
  else .error .sliceBounds

/-- Go `s[i] = v` on a `[]byte`. -/
def setI (s : Bytes) (i : Int) (v : Byte) : Except Fault Bytes :=
  if 0 ≤ i ∧ i < s.length then .ok (s.set i.toNat v) else .error .indexOutOfRange

/-! ### Slices of any element type (`[]CMode`, …): checked index, slice, element assignment, `make`, `copy` -/

/-- Go `s[i]` on a slice. -/
def atA {α : Type} (s : List α) (i : Int) : Except Fault α :=
  if 0 ≤ i ∧ i < s.length then
    match s[i.toNat]? with
    | some b => .ok b
    | none => .error .indexOutOfRange
  else .error .indexOutOfRange

/-- Go `s[lo:hi]` on a slice (capacity not modelled). -/
def sliceA {α : Type} (s : List α) (lo hi : Int) : Except Fault (List α) :=
  if 0 ≤ lo ∧ lo ≤ hi ∧ hi ≤ s.length then .ok ((s.drop lo.toNat).take (hi - lo).toNat)
  else .error .sliceBounds

/-- Go `s[i] = v` on a slice. -/
def setA {α : Type} (s : List α) (i : Int) (v : α) : Except Fault (List α) :=
  if 0 ≤ i ∧ i < s.length then .ok (s.set i.toNat v) else .error .indexOutOfRange

/-- Go `make([]T, n)`: `n` zero values; a negative length panics. -/
def makeA {α : Type} (zero : α) (n : Int) : Except Fault (List α) :=
  if 0 ≤ n then .ok (List.replicate n.toNat zero) else .error .sliceBounds

/-- Go `make([]T, n, c)`: `n` zero values; the capacity is not modelled, its run-time check `0 ≤ n ≤ c` is. -/
def makeCapA {α : Type} (zero : α) (n c : Int) : Except Fault (List α) :=
  if 0 ≤ n ∧ n ≤ c then .ok (List.replicate n.toNat zero) else .error .sliceBounds

/-- Go `p[lo:hi]` on a slice PARAMETER whose capacity is modelled (the translated function calls `cap(p)`): `spare` are
    the elements of the backing array between `len(p)` and `cap(p)` (arbitrary contents — the theorems quantify over
    them), so a reslice may extend up to `len p + len spare`. -/
def sliceCapA {α : Type} (s spare : List α) (lo hi : Int) : Except Fault (List α) :=
  if 0 ≤ lo ∧ lo ≤ hi ∧ hi ≤ (s.length + spare.length : Nat) then .ok (((s ++ spare).drop lo.toNat).take (hi - lo).toNat)
  else .error .sliceBounds

/-- `x == nil` for a slice.  Nil-ness of slices is NOT modelled (nil and the empty slice are both `[]`): the empty slice
    is taken to be nil.  The translator admits the test only as `if x != nil { … }` without `else` (TRUSTED: the guarded
    block has the same value-level effect on an empty non-nil slice as being skipped — `make([]T, 0)` + `copy` of nothing
    in `(*Event).Copy`). -/
def sliceIsNil {α : Type} (s : List α) : Bool := s.isEmpty

/-- Go `copy(dst, src)` (the statement form; the count is discarded): the first `min(len dst, len src)` elements of
    `dst` are overwritten.  `dst` and `src` do not overlap (values). -/
def copyA {α : Type} (dst src : List α) : List α :=
  src.take dst.length ++ dst.drop (src.take dst.length).length

/-- `strings.SplitN(s, sep, n)` for a ONE-byte separator and `n > 0`: at most `n` pieces, the last one is the
    unsplit remainder. -/
def splitNOn (b : Byte) : Nat → Bytes → List Bytes
  | 0, _ => []
  | 1, s => [s]
  | n + 2, s =>
    match indexOf b s with
    | none => [s]
    | some i => s.take i :: splitNOn b (n + 1) (s.drop (i + 1))

def splitN (s sep : Bytes) (n : Int) : Except Fault (List Bytes) :=
  match sep with
  | [b] => if 0 < n then .ok (splitNOn b n.toNat s)
           else .error (.unsupported "strings.SplitN: n ≤ 0")
  | _ => .error (.unsupported "strings.SplitN: separator is not one byte")

/-- Go integer division `a / b`: truncates towards zero; division by zero panics. -/
def divI (a b : Int) : Except Fault Int :=
  if b = 0 then .error (.unsupported "integer division by zero") else .ok (Int.tdiv a b)

/-- Go `string(b)` for a `byte` b: the UTF-8 encoding of the code point U+00bb (one byte below 0x80,
    two bytes from 0x80 on). -/
def strOfByte (b : Byte) : Bytes :=
  if b < 0x80 then [b] else [(0xC0 : UInt8) ||| (b >>> 6), (0x80 : UInt8) ||| (b &&& 0x3F)]

/-- `strings.Index(s, sub)`: byte index of the leftmost occurrence of `sub` in `s`, -1 if none;
    `strings.Index(s, "") = 0`. -/
def indexI (s sub : Bytes) : Int :=
  match findSub sub s with
  | none => -1
  | some n => n

/-- `strings.Contains(s, sub)` = `strings.Index(s, sub) >= 0`. -/
def containsSub (s sub : Bytes) : Bool := (findSub sub s).isSome

/-- `strings.HasPrefix(s, p)`. -/
def hasPrefix (s p : Bytes) : Bool := p.isPrefixOf s

/-- `strings.HasSuffix(s, p)`. -/
def hasSuffix (s p : Bytes) : Bool := isSuffixOfB p s

/-- `strings.Split(s, sep)`.  Modelled for a ONE-byte separator only (all the call sites in the
    translated functions): the pieces between the separators, always at least one piece.  Any other
    separator (in particular the empty one, which splits into UTF-8 sequences) is outside the model. -/
def split (s sep : Bytes) : Except Fault (List Bytes) :=
  match sep with
  | [b] => .ok (splitOnByte b s)
  | _ => .error (.unsupported "strings.Split: separator is not one byte")

@[simp] theorem split_one (s : Bytes) (b : Byte) : split s [b] = .ok (splitOnByte b s) := rfl

/-- `strings.NewReplacer(old₁, new₁, old₂, new₂, …).Replace(s)` for NON-EMPTY old strings: scanning left to
    right, at each position the first pair (in argument order) whose old string is a prefix of the
    remaining input is applied and the scan continues after it (matches do not overlap); otherwise one
    byte is copied.  (The translator refuses a replacer that has an empty old string.) -/
def replacerFuel (pairs : List (Bytes × Bytes)) : Nat → Bytes → Bytes
  | 0, _ => []
  | _ + 1, [] => []
  | n + 1, b :: rest =>
    match pairs.find? (fun p => p.1.isPrefixOf (b :: rest)) with
    | some p => p.2 ++ replacerFuel pairs n ((b :: rest).drop p.1.length)
    | none => b :: replacerFuel pairs n rest

def replacer (pairs : List (Bytes × Bytes)) (s : Bytes) : Bytes := replacerFuel pairs (s.length + 1) s

/-- A non-nil Go `error` VALUE.  Only nil-ness is modelled (`error` ↦ `Option GoErr`, `nil` ↦ `none`); the message
    text (`fmt.Errorf(…)`) is abstracted away. -/
inductive GoErr where
  | mk
  deriving DecidableEq, Repr

/-- `errors.New(msg)`: a non-nil error; the (already evaluated) message text is abstracted away. -/
def errOf (_msg : Bytes) : Option GoErr := some GoErr.mk

/-- `sort.Strings(x)`: `x` sorted increasingly by Go's string `<` (byte-wise lexicographic, `bytesLt`).
    TRUSTED table entry: the library sorts in place into the unique ascending arrangement; the model is
    insertion sort (`sortBytes`, Girc/Base/Bytes.lean). -/
def sortStrings (l : List Bytes) : List Bytes := sortBytes l

/-- The keys a `for k := range m` visits, in the order of the association list that represents the map.
    Go's order is unspecified: every permutation of the list represents the same map, and the theorems about a
    function that ranges over a map hold for every representation. -/
def mapKeys (t : Option Tags) : List Bytes :=
  match t with
  | none => []
  | some m => AMap.keys m

/-- `strings.ReplaceAll(s, old, new)` for a NON-EMPTY `old`: leftmost, non-overlapping occurrences, scanning left to
    right.  (An empty `old` matches before every UTF-8 sequence — outside the model, reported as `.unsupported`.) -/
def replaceAllFuel (old new : Bytes) : Nat → Bytes → Bytes
  | 0, s => s
  | _ + 1, [] => []
  | n + 1, b :: rest =>
    if old.isPrefixOf (b :: rest) then new ++ replaceAllFuel old new n ((b :: rest).drop old.length)
    else b :: replaceAllFuel old new n rest

def replaceAll (s old new : Bytes) : Except Fault Bytes :=
  if old.isEmpty then .error (.unsupported "strings.ReplaceAll: empty old string")
  else .ok (replaceAllFuel old new (s.length + 1) s)

/-- Look-ups in a package-level map literal (`var X = map[string]T{…}`, emitted as a table with unique keys):
    `_, ok := X[k]`, `X[k]` for `T = string` and `T = int` (a missing key reads as the zero value). -/
def pmHas {β : Type} (m : List (Bytes × β)) (k : Bytes) : Bool := (m.lookup k).isSome
def pmGetS (m : List (Bytes × Bytes)) (k : Bytes) : Bytes := (m.lookup k).getD []
def pmGetI (m : List (Bytes × Int)) (k : Bytes) : Int := (m.lookup k).getD 0

/-- The decimal digits of a natural number. -/
def natDigits (n : Nat) : Bytes := (Nat.toDigits 10 n).map (fun c => UInt8.ofNat c.toNat)

/-- `fmt.Sprintf("%02d", i)`: decimal, zero-padded to width 2 (a minus sign counts towards the width, so a negative
    number is never padded). -/
def fmtD2 (i : Int) : Bytes :=
  if i < 0 then 0x2D :: natDigits i.natAbs
  else if i < 10 then 0x30 :: natDigits i.toNat
  else natDigits i.toNat

/-- Go `len(m)` on a map (the association list has unique keys). -/
def mapLen (t : Option Tags) : Int :=
  match t with
  | none => 0
  | some m => m.length

/-- Go `m[k]` (a nil map reads as empty; a missing key reads as ""). -/
def mapGet (t : Option Tags) (k : Bytes) : Bytes :=
  match t with
  | none => []
  | some m => (AMap.get? m k).getD []

/-- Go `_, ok := m[k]`. -/
def mapHas (t : Option Tags) (k : Bytes) : Bool :=
  match t with
  | none => false
  | some m => AMap.contains m k

/-- Go `m[k] = v`: panics on a nil map. -/
def mapSet (t : Option Tags) (k v : Bytes) : Except Fault (Option Tags) :=
  match t with
  | none => .error .nilMap
  | some m => .ok (some (AMap.set m k v))

@[simp] theorem mapSet_some (m : Tags) (k v : Bytes) : mapSet (some m) k v = .ok (some (AMap.set m k v)) := rfl

/-- Go `delete(m, k)`: a no-op on a nil map and on a missing key. -/
def mapDelete (t : Option Tags) (k : Bytes) : Option Tags :=
  match t with
  | none => none
  | some m => some (AMap.erase m k)

/-- `time.Since(t)` read when the clock shows `now`: `now.Sub(t)`, which SATURATES at the `time.Duration` limits
    (int64 nanoseconds).  TRUSTED table entry (one integer clock, as for `time.Now()`/`Sub`). -/
def timeSince (now t : Int) : Int :=
  let d := now - t
  if d > 9223372036854775807 then 9223372036854775807 else if d < -9223372036854775808 then -9223372036854775808 else d

/-- `int(d.Seconds())` for a `time.Duration` d: whole seconds, truncated towards zero.  TRUSTED: `Seconds()` is a float64
    (`float64(d/1e9) + float64(d%1e9)/1e9`); the model is the exact quotient, which agrees with Go whenever the whole-second
    count is below 2^23 (see Model/StsTime.lean for the rounding note). -/
def durWholeSeconds (d : Int) : Int := Int.tdiv d 1000000000

/-- Go `m[k]` on a `map[string]map[string]string` (nil outer map / missing key read as the nil inner map). -/
def mapGet2 (t : Option (AMap (Option Tags))) (k : Bytes) : Option Tags :=
  match t with
  | none => none
  | some m => (AMap.get? m k).getD none

/-- Go `m[k] = v` on a `map[string]map[string]string`: panics on a nil map. -/
def mapSet2 (t : Option (AMap (Option Tags))) (k : Bytes) (v : Option Tags) : Except Fault (Option (AMap (Option Tags))) :=
  match t with
  | none => .error .nilMap
  | some m => .ok (some (AMap.set m k v))

/-- Fuel for a loop `for …; i < n; …`: the distance plus one. -/
def fuelTo (i n : Int) : Nat := (n - i).toNat + 1

end Girc.Go
